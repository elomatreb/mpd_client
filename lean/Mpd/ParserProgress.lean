import Mpd.Parser
/-!
When the primitives and combinators succeed (`p i = .ok v r ↔ …`), the run parsers in closed form, and
progress: `parseComp` leaves strictly less than its input. `Mpd.Builder.feed` terminates because of this,
which is why these lemmas are in the model library.
-/
namespace Mpd.Parser

theorem tag_ok_iff (t i : Bytes) (u : Unit) (r : Bytes) : tag t i = .ok u r ↔ i = t ++ r := by
  induction t generalizing i with
  | nil => simp [tag, eq_comm]
  | cons a ts ih =>
    cases i with
    | nil => simp [tag]
    | cons b bs =>
      simp only [tag, List.cons_append, List.cons.injEq]
      split
      · rename_i h; subst h; simp [ih]
      · rename_i h; simp; intro h'; exact absurd h'.symm h

theorem char_eq_tag (c : UInt8) : char c = tag [c] := by
  funext i
  cases i with
  | nil => rfl
  | cons b bs =>
    rw [char, tag, tag.eq_def]
    by_cases h : b = c
    · rw [if_pos h, if_pos h.symm]
    · rw [if_neg h, if_neg (Ne.symm h)]

theorem char_ok_iff (c : UInt8) (i : Bytes) (u : Unit) (r : Bytes) : char c i = .ok u r ↔ i = c :: r :=
  char_eq_tag c ▸ tag_ok_iff [c] i u r

theorem take_ok_iff (n : Nat) (i v r : Bytes) : take n i = .ok v r ↔ v.length = n ∧ i = v ++ r := by
  unfold take
  split
  next h =>
    refine ⟨nofun, fun ⟨h1, h2⟩ => ?_⟩
    rw [h2, List.length_append, h1] at h
    exact absurd h (Nat.not_lt.mpr (Nat.le_add_right ..))
  next h =>
    rw [Res.ok.injEq]
    constructor
    · rintro ⟨rfl, rfl⟩
      exact ⟨List.length_take_of_le (Nat.le_of_not_lt h), (List.take_append_drop n i).symm⟩
    · rintro ⟨rfl, rfl⟩
      exact ⟨List.take_left, List.drop_left⟩

theorem andThen_ok_iff {α β} (f : P α) (g : α → P β) (i : Bytes) (v : β) (r : Bytes) :
    andThen f g i = .ok v r ↔ ∃ a r1, f i = .ok a r1 ∧ g a r1 = .ok v r := by
  unfold andThen
  cases h : f i with
  | ok a r1 =>
    simp only [Res.ok.injEq]
    constructor
    · intro hg; exact ⟨a, r1, ⟨rfl, rfl⟩, hg⟩
    · rintro ⟨a', r1', ⟨rfl, rfl⟩, hg⟩; exact hg
  | incomplete => simp
  | error => simp
  | failure => simp

/-- By unfolding, `pMap` and `mapRes` are `andThen` with a continuation that returns at once, and `cut` is `alt` with an
alternative that fails: their lemmas, here and for `Stable`, are those of `andThen` and `alt` at that continuation. -/
theorem pMap_ok_iff {α β} (p : P α) (f : α → β) (i : Bytes) (v : β) (r : Bytes) :
    pMap p f i = .ok v r ↔ ∃ a, p i = .ok a r ∧ f a = v :=
  (andThen_ok_iff p (fun a i => .ok (f a) i) i v r).trans
    ⟨fun ⟨a, _, h, e⟩ => by cases e; exact ⟨a, h, rfl⟩, fun ⟨a, h, e⟩ => ⟨a, r, h, e ▸ rfl⟩⟩

theorem mapRes_ok_iff {α β} (p : P α) (f : α → Option β) (i : Bytes) (v : β) (r : Bytes) :
    mapRes p f i = .ok v r ↔ ∃ a, p i = .ok a r ∧ f a = some v :=
  (andThen_ok_iff p (fun a i => match f a with | some w => .ok w i | none => .error) i v r).trans
    ⟨fun ⟨a, r1, h, e⟩ => by
      cases hf : f a <;> rw [hf] at e <;> cases e
      exact ⟨a, h, hf⟩,
     fun ⟨a, h, e⟩ => ⟨a, r, h, by rw [e]⟩⟩

theorem alt_ok_iff {α} (f g : P α) (i : Bytes) (v : α) (r : Bytes) :
    alt f g i = .ok v r ↔ f i = .ok v r ∨ (f i = .error ∧ g i = .ok v r) := by
  unfold alt
  cases h : f i <;> simp

theorem opt_ok_iff {α} (p : P α) (i : Bytes) (v : Option α) (r : Bytes) :
    opt p i = .ok v r ↔ (∃ a, p i = .ok a r ∧ v = some a) ∨ (p i = .error ∧ v = none ∧ r = i) := by
  unfold opt
  cases h : p i <;> simp
  · constructor
    · rintro ⟨rfl, rfl⟩; exact ⟨_, ⟨rfl, rfl⟩, rfl⟩
    · rintro ⟨a, ⟨rfl, rfl⟩, rfl⟩; exact ⟨rfl, rfl⟩
  · constructor
    · rintro ⟨rfl, rfl⟩; exact ⟨rfl, rfl⟩
    · rintro ⟨rfl, rfl⟩; exact ⟨rfl, rfl⟩

theorem cut_ok_iff {α} (p : P α) (i : Bytes) (v : α) (r : Bytes) :
    cut p i = .ok v r ↔ p i = .ok v r :=
  (alt_ok_iff p (fun _ => .failure) i v r).trans ⟨fun h => h.elim id nofun, .inl⟩

theorem terminated_ok_iff {α β} (p : P α) (q : P β) (i : Bytes) (v : α) (r : Bytes) :
    terminated p q i = .ok v r ↔ ∃ r1 b, p i = .ok v r1 ∧ q r1 = .ok b r := by
  unfold terminated
  rw [andThen_ok_iff]
  constructor
  · rintro ⟨a, r1, h1, h2⟩
    rw [pMap_ok_iff] at h2
    obtain ⟨b, h2, rfl⟩ := h2
    exact ⟨r1, b, h1, h2⟩
  · rintro ⟨r1, b, h1, h2⟩
    exact ⟨v, r1, h1, (pMap_ok_iff _ _ _ _ _).mpr ⟨b, h2, rfl⟩⟩

theorem preceded_ok_iff {α β} (p : P α) (q : P β) (i : Bytes) (v : β) (r : Bytes) :
    preceded p q i = .ok v r ↔ ∃ a r1, p i = .ok a r1 ∧ q r1 = .ok v r := by
  unfold preceded
  rw [andThen_ok_iff]

theorem andThen_error {α β} (f : P α) (g : α → P β) (i : Bytes) (h : f i = .error) :
    andThen f g i = .error := by
  unfold andThen; rw [h]

theorem pMap_error {α β} (p : P α) (f : α → β) (i : Bytes) (h : p i = .error) : pMap p f i = .error := by
  unfold pMap; rw [h]

theorem alt_of_error {α} (f g : P α) (i : Bytes) (h : f i = .error) : alt f g i = g i := by
  unfold alt; rw [h]

theorem alt_of_ok {α} (f g : P α) (i : Bytes) (v : α) (r : Bytes) (h : f i = .ok v r) :
    alt f g i = .ok v r := by
  unfold alt; rw [h]

/-! nom's streaming run parsers: the longest run, provided a byte follows it (at the end of the input it could go on). -/

theorem takeWhile_eq (p : UInt8 → Bool) (i : Bytes) :
    takeWhile p i = if i.dropWhile p = [] then .incomplete else .ok (i.takeWhile p) (i.dropWhile p) := by
  induction i with
  | nil => rfl
  | cons b bs ih =>
    rw [takeWhile, ih, List.takeWhile_cons, List.dropWhile_cons]
    cases p b
    · rfl
    · by_cases h : bs.dropWhile p = [] <;> simp [h]

theorem takeWhile1_eq (p : UInt8 → Bool) (i : Bytes) :
    takeWhile1 p i =
      if i.dropWhile p = [] then .incomplete
      else if i.takeWhile p = [] then .error else .ok (i.takeWhile p) (i.dropWhile p) := by
  induction i with
  | nil => rfl
  | cons b bs ih =>
    rw [takeWhile1, ih, List.takeWhile_cons, List.dropWhile_cons]
    cases p b
    · rfl
    · by_cases h1 : bs.dropWhile p = []
      · simp [h1]
      · by_cases h2 : bs.takeWhile p = []
        · -- the run ends after `b`
          have h3 : bs.dropWhile p = bs := by
            have := List.takeWhile_append_dropWhile (p := p) (l := bs)
            rwa [h2, List.nil_append] at this
          have h4 : bs ≠ [] := h3 ▸ h1
          simp [h2, h3, h4]
        · simp [h1, h2]

theorem takeWhile1_eq_mapRes (p : UInt8 → Bool) :
    takeWhile1 p = mapRes (takeWhile p) fun v => if v = [] then none else some v := by
  funext i
  rw [takeWhile1_eq, mapRes, takeWhile_eq]
  by_cases h : i.dropWhile p = []
  · rw [if_pos h, if_pos h]
  · rw [if_neg h, if_neg h]
    by_cases h2 : i.takeWhile p = []
    · simp only [h2, if_true]
    · simp only [h2, if_false]

theorem takeUntilLF_eq_takeWhile : takeUntilLF = takeWhile (· != LF) := by
  funext i
  induction i with
  | nil => rfl
  | cons b bs ih =>
    rw [takeUntilLF, takeWhile, ih]
    by_cases hb : b = LF
    · subst hb
      rfl
    · rw [if_neg hb, if_pos (bne_iff_ne.mpr hb)]

def Shrinks {α} (p : P α) : Prop := ∀ i v r, p i = .ok v r → r.length ≤ i.length
def ShrinksStrict {α} (p : P α) : Prop := ∀ i v r, p i = .ok v r → r.length < i.length

theorem strict_shrinks {α} (p : P α) (h : ShrinksStrict p) : Shrinks p :=
  fun i v r hh => Nat.le_of_lt (h i v r hh)

theorem tag_strict (t : Bytes) (ht : t ≠ []) : ShrinksStrict (tag t) := by
  intro i v r h
  rw [(tag_ok_iff t i v r).mp h, List.length_append]
  exact Nat.lt_add_of_pos_left (List.length_pos_iff.mpr ht)

theorem char_strict (c : UInt8) : ShrinksStrict (char c) :=
  char_eq_tag c ▸ tag_strict [c] (List.cons_ne_nil _ _)

theorem char_shrinks (c : UInt8) : Shrinks (char c) := strict_shrinks _ (char_strict c)

theorem takeWhile_shrinks (p : UInt8 → Bool) : Shrinks (takeWhile p) := by
  intro i v r h
  rw [takeWhile_eq] at h
  split at h
  · cases h
  · cases h
    exact (List.dropWhile_suffix p).length_le

theorem takeWhile1_strict (p : UInt8 → Bool) : ShrinksStrict (takeWhile1 p) := by
  intro i v r h
  rw [takeWhile1_eq] at h
  split at h
  · cases h
  · split at h
    · cases h
    · rename_i hne
      cases h
      -- the input is the run, which is not empty, followed by what is left
      rw [← congrArg List.length (List.takeWhile_append_dropWhile (p := p) (l := i)), List.length_append]
      exact Nat.lt_add_of_pos_left (List.length_pos_iff.mpr hne)

theorem takeUntilLF_shrinks : Shrinks takeUntilLF :=
  takeUntilLF_eq_takeWhile ▸ takeWhile_shrinks _

theorem take_shrinks (n : Nat) : Shrinks (take n) := by
  intro i v r h
  rw [((take_ok_iff n i v r).mp h).2, List.length_append]
  exact Nat.le_add_left ..

theorem pMap_shrinks {α β} (p : P α) (f : α → β) (hp : Shrinks p) : Shrinks (pMap p f) := by
  intro i v r h
  obtain ⟨a, h, _⟩ := (pMap_ok_iff ..).mp h
  exact hp i a r h

theorem pMap_strict {α β} (p : P α) (f : α → β) (hp : ShrinksStrict p) : ShrinksStrict (pMap p f) := by
  intro i v r h
  obtain ⟨a, h, _⟩ := (pMap_ok_iff ..).mp h
  exact hp i a r h

theorem mapRes_shrinks {α β} (p : P α) (f : α → Option β) (hp : Shrinks p) : Shrinks (mapRes p f) := by
  intro i v r h
  obtain ⟨a, h, _⟩ := (mapRes_ok_iff ..).mp h
  exact hp i a r h

theorem mapRes_strict {α β} (p : P α) (f : α → Option β) (hp : ShrinksStrict p) : ShrinksStrict (mapRes p f) := by
  intro i v r h
  obtain ⟨a, h, _⟩ := (mapRes_ok_iff ..).mp h
  exact hp i a r h

theorem andThen_shrinks {α β} (f : P α) (g : α → P β) (hf : Shrinks f) (hg : ∀ a, Shrinks (g a)) :
    Shrinks (andThen f g) := by
  intro i v r h
  obtain ⟨a, r1, h1, h2⟩ := (andThen_ok_iff ..).mp h
  exact Nat.le_trans (hg a r1 v r h2) (hf i a r1 h1)

theorem andThen_strict_left {α β} (f : P α) (g : α → P β) (hf : ShrinksStrict f) (hg : ∀ a, Shrinks (g a)) :
    ShrinksStrict (andThen f g) := by
  intro i v r h
  obtain ⟨a, r1, h1, h2⟩ := (andThen_ok_iff ..).mp h
  exact Nat.lt_of_le_of_lt (hg a r1 v r h2) (hf i a r1 h1)

theorem alt_strict {α} (f g : P α) (hf : ShrinksStrict f) (hg : ShrinksStrict g) : ShrinksStrict (alt f g) := by
  intro i v r h
  rcases (alt_ok_iff ..).mp h with h | ⟨_, h⟩
  · exact hf i v r h
  · exact hg i v r h

theorem opt_shrinks {α} (p : P α) (hp : Shrinks p) : Shrinks (opt p) := by
  intro i v r h
  rcases (opt_ok_iff ..).mp h with ⟨a, h, _⟩ | ⟨_, _, rfl⟩
  · exact hp i a r h
  · exact Nat.le_refl _

theorem cut_shrinks {α} (p : P α) (hp : Shrinks p) : Shrinks (cut p) :=
  fun i v r h => hp i v r ((cut_ok_iff ..).mp h)

theorem terminated_shrinks {α β} (p : P α) (q : P β) (hp : Shrinks p) (hq : Shrinks q) :
    Shrinks (terminated p q) :=
  andThen_shrinks _ _ hp fun _ => pMap_shrinks _ _ hq

theorem preceded_strict {α β} (p : P α) (q : P β) (hp : ShrinksStrict p) (hq : Shrinks q) :
    ShrinksStrict (preceded p q) :=
  andThen_strict_left _ _ hp fun _ => hq

theorem preceded_shrinks {α β} (p : P α) (q : P β) (hp : Shrinks p) (hq : Shrinks q) :
    Shrinks (preceded p q) :=
  andThen_shrinks _ _ hp fun _ => hq

theorem number_shrinks : Shrinks number :=
  mapRes_shrinks _ _ (strict_shrinks _ (takeWhile1_strict _))

theorem errorCodeAndIndex_shrinks : Shrinks errorCodeAndIndex :=
  preceded_shrinks _ _ (char_shrinks _) <|
  andThen_shrinks _ _ number_shrinks fun _ =>
  preceded_shrinks _ _ (char_shrinks _) <|
  andThen_shrinks _ _ number_shrinks fun _ =>
  pMap_shrinks _ _ (char_shrinks _)

theorem errorCurrentCommand_shrinks : Shrinks errorCurrentCommand :=
  preceded_shrinks _ _ (char_shrinks _) <|
  terminated_shrinks _ _ (opt_shrinks _ (mapRes_shrinks _ _ (strict_shrinks _ (takeWhile1_strict _)))) (char_shrinks _)

theorem error_strict : ShrinksStrict error :=
  preceded_strict _ _ (tag_strict _ (by decide +kernel)) <|
  andThen_shrinks _ _ (terminated_shrinks _ _ errorCodeAndIndex_shrinks (char_shrinks _)) fun _ =>
  andThen_shrinks _ _ (terminated_shrinks _ _ errorCurrentCommand_shrinks (char_shrinks _)) fun _ =>
  andThen_shrinks _ _ (mapRes_shrinks _ _ (takeWhile_shrinks _)) fun _ =>
  pMap_shrinks _ _ (char_shrinks _)

theorem fieldValue_shrinks : Shrinks fieldValue :=
  terminated_shrinks _ _ takeUntilLF_shrinks (char_shrinks _)

theorem keyValueField_strict : ShrinksStrict keyValueField :=
  andThen_strict_left _ _ (mapRes_strict _ _ (takeWhile1_strict _)) fun _ =>
  preceded_shrinks _ _ (strict_shrinks _ (tag_strict _ (by decide +kernel))) <|
  pMap_shrinks _ _ (mapRes_shrinks _ _ fieldValue_shrinks)

theorem binaryPrefix_strict : ShrinksStrict binaryPrefix :=
  preceded_strict _ _ (tag_strict _ (by decide +kernel)) <|
  cut_shrinks _ (terminated_shrinks _ _ number_shrinks (char_shrinks _))

theorem binaryField_strict : ShrinksStrict binaryField :=
  andThen_strict_left _ _ binaryPrefix_strict fun _ =>
  cut_shrinks _ (terminated_shrinks _ _ (take_shrinks _) (char_shrinks _))

theorem parseComp_strict : ShrinksStrict parseComp :=
  alt_strict _ _ (pMap_strict _ _ (tag_strict _ (by decide +kernel))) <|
  alt_strict _ _ (pMap_strict _ _ (tag_strict _ (by decide +kernel))) <|
  alt_strict _ _ (pMap_strict _ _ error_strict) <|
  alt_strict _ _ (pMap_strict _ _ binaryField_strict) <|
  pMap_strict _ _ keyValueField_strict

end Mpd.Parser
