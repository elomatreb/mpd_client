import Mpd.Builder
/-!
# Model of `mpd_protocol/src/connection.rs`: `connect` and `receive`, blocking and async

The reader is a *script*: a list of chunks (what successive reads can deliver at most) followed by
a persistent terminal condition (end of stream, or an I/O error kind). A read into a buffer with
`s` free bytes returns `min s (head chunk length)` bytes; a read that returns 0 bytes is what the
code treats as end of stream, so an empty chunk in the script behaves like EOF at that point.

* `AsyncConnection::receive`: growing `BytesMut`; the whole chunk is appended.
* `Connection::receive` (blocking): fixed-size zeroed buffer `recv_buf` of length `cap`, of which the
  first `total_received` bytes are valid; `split_off` / parse / `unsplit` / `resize`; reads go into
  `buf[total..]`; the buffer doubles when it becomes full (`read_to_buffer`). After fix F10 the buffer
  is restored before a parse error is returned.
-/
namespace Mpd.Conn
open Mpd Mpd.Parser Mpd.Builder

/-- how the byte stream ends (persistently) -/
inductive Term where
  | eof
  | ioerr (kind : Nat)
deriving Repr, DecidableEq

/-- result of one `receive()` call -/
inductive Item where
  | resp (r : Response)      -- Ok(Some(r))
  | clean                    -- Ok(None)
  | invalid                  -- Err(InvalidMessage)
  | unexpectedEof            -- Err(Io(UnexpectedEof))
  | io (kind : Nat)          -- Err(Io(kind)) from the reader
  | panic
deriving Repr, DecidableEq

def Item.isResp : Item → Bool
  | .resp _ => true
  | _ => false

/-- the EOF test of both `receive`s -/
def eofItem (σ : BState) (unconsumed : Bytes) : Item :=
  if inProgress σ || !unconsumed.isEmpty then .unexpectedEof else .clean

def termItem (t : Term) (σ : BState) (unconsumed : Bytes) : Item :=
  match t with
  | .eof => eofItem σ unconsumed
  | .ioerr k => .io k

/-! ## async -/

/-- the loop of `AsyncConnection::receive`: returns the item, the new `recv_buf`, the rest of the
script, and the builder state the call leaves behind (after fix F12 the next call resumes from it:
`ResponseBuilder::drop` hands the state to the connection, `ResponseBuilder::new` takes it back) -/
def recvLoopA (σ : BState) (buf : Bytes) : List Bytes → Term → Item × Bytes × List Bytes × BState
  | chunks, term =>
    match feed σ buf with
    | (σ', rest, .done r) => (.resp r, rest, chunks, σ')
    | (σ', rest, .invalid) => (.invalid, rest, chunks, σ')
    | (σ', rest, .panic) => (.panic, rest, chunks, σ')
    | (σ', rest, .pending) =>
      match chunks with
      | [] => (termItem term σ' rest, rest, [], σ')
      | c :: cs =>
        if c.isEmpty then (eofItem σ' rest, rest, cs, σ')       -- a 0-byte read is EOF to the code
        else recvLoopA σ' (rest ++ c) cs term

/-- one `receive()` call on an async connection whose previous call left the builder state `σ` -/
def recvA (σ : BState) (buf : Bytes) (chunks : List Bytes) (term : Term) : Item × Bytes × List Bytes × BState :=
  recvLoopA σ buf chunks term

/-- a session: call `receive` until it yields something else than a response, then `extra` more
calls (whose results are recorded too: they must not panic). `fuel` bounds the number of responses.
`σ` is the builder state kept by the connection between calls (`.initial` on a new connection). -/
def sessionA : Nat → Nat → BState → Bytes → List Bytes → Term → List Item
  | 0, _, _, _, _, _ => []
  | fuel + 1, extra, σ, buf, chunks, term =>
    match recvA σ buf chunks term with
    | (.resp r, buf', cs', σ') => .resp r :: sessionA fuel extra σ' buf' cs' term
    | (it, buf', cs', σ') =>
      match extra with
      | 0 => [it]
      | e + 1 => it :: sessionA fuel e σ' buf' cs' term

/-- whole-stream reference decoding: the session when the entire stream is available at once
(no segmentation at all). C02 states that every segmentation, of either flavour, yields this. -/
def decodeAll : Nat → Bytes → Term → List Item
  | 0, _, _ => []
  | fuel + 1, s, term =>
    match feed .initial s with
    | (_, rest, .done r) => .resp r :: decodeAll fuel rest term
    | (_, _, .invalid) => [.invalid]
    | (_, _, .panic) => [.panic]
    | (σ, rest, .pending) => [termItem term σ rest]

/-! ## blocking -/

/-- `recv_buf` of the blocking connection: its length `cap` and the valid prefix
(`data.length = total_received`) -/
structure SBuf where
  cap : Nat
  data : Bytes
deriving Repr, DecidableEq

def DEFAULT_CAP : Nat := 4096

/-- one scripted blocking read into `buf[total..]`: bytes delivered and the remaining script;
`none` = the script is exhausted (terminal condition applies) -/
def readChunk (space : Nat) : List Bytes → Option (Bytes × List Bytes)
  | [] => none
  | c :: cs =>
    if c.length ≤ space then some (c, cs)
    else some (c.take space, c.drop space :: cs)

/-- `read_to_buffer` bookkeeping: append, double when full -/
def afterRead (b : SBuf) (unconsumed got : Bytes) : SBuf :=
  let data := unconsumed ++ got
  { cap := if data.length = b.cap then b.cap * 2 else b.cap, data := data }

/-- the loop of `Connection::receive`. `fuel` bounds the number of reads. -/
def recvLoopS : Nat → BState → SBuf → List Bytes → Term → Item × SBuf × List Bytes × BState
  | 0, σ, b, chunks, _ => (.panic, b, chunks, σ)     -- out of fuel: never happens with enough fuel
  | fuel + 1, σ, b, chunks, term =>
    -- `split_off(total_received)` panics if total_received > len
    if b.cap < b.data.length then (.panic, b, chunks, σ) else
    match feed σ b.data with
    | (σ', rest, .done r) => (.resp r, { b with data := rest }, chunks, σ')
    | (σ', rest, .invalid) => (.invalid, { b with data := rest }, chunks, σ')
    | (σ', rest, .panic) => (.panic, { b with data := rest }, chunks, σ')
    | (σ', rest, .pending) =>
      match readChunk (b.cap - rest.length) chunks with
      | none => (termItem term σ' rest, { b with data := rest }, [], σ')
      | some (got, cs) =>
        if got.isEmpty then (eofItem σ' rest, { b with data := rest }, cs, σ')
        else recvLoopS fuel σ' (afterRead b rest got) cs term

def scriptLen (chunks : List Bytes) : Nat := chunks.flatten.length + chunks.length

def recvS (σ : BState) (b : SBuf) (chunks : List Bytes) (term : Term) : Item × SBuf × List Bytes × BState :=
  recvLoopS (scriptLen chunks + 1) σ b chunks term

def sessionS : Nat → Nat → BState → SBuf → List Bytes → Term → List Item
  | 0, _, _, _, _, _ => []
  | fuel + 1, extra, σ, b, chunks, term =>
    match recvS σ b chunks term with
    | (.resp r, b', cs', σ') => .resp r :: sessionS fuel extra σ' b' cs' term
    | (it, b', cs', σ') =>
      match extra with
      | 0 => [it]
      | e + 1 => it :: sessionS fuel e σ' b' cs' term

/-! ## transports on which single reads fail recoverably

A read that fails once (time-out, `WouldBlock`, interrupted) and works again later is the same
script in *pieces*: the piece before the failure ends in that error as its terminal condition; the
call that reports the failure leaves the connection state from which the caller's next call goes on
with the next piece. `recvRetryA` is one *logical* receive: the caller calls again after every
reported read failure, any number of times. -/

/-- a piece of a script: chunks, then how this piece ends -/
abbrev ScriptPiece := List Bytes × Term

/-- one logical `receive` of a caller that retries after a failed read. Returns the item, the
receive buffer, the builder state, and what is left of the script (rest of the current piece, its
terminal condition, later pieces). -/
def recvRetryA (σ : BState) (buf : Bytes) (cs : List Bytes) (t : Term) :
    List ScriptPiece → Item × Bytes × BState × List Bytes × Term × List ScriptPiece
  | [] => ((recvLoopA σ buf cs t).1, (recvLoopA σ buf cs t).2.1, (recvLoopA σ buf cs t).2.2.2,
           (recvLoopA σ buf cs t).2.2.1, t, [])
  | p :: more =>
    match recvLoopA σ buf cs t with
    | (.io _, buf', _, σ') => recvRetryA σ' buf' p.1 p.2 more      -- the failed read is reported; the caller calls again
    | (it, buf', cs', σ') => (it, buf', σ', cs', t, p :: more)

/-- a session of logical receives (see `sessionA`) -/
def sessionRetryA : Nat → Nat → BState → Bytes → List Bytes → Term → List ScriptPiece → List Item
  | 0, _, _, _, _, _, _ => []
  | fuel + 1, extra, σ, buf, cs, t, more =>
    match recvRetryA σ buf cs t more with
    | (.resp r, buf', σ', cs', t', more') => .resp r :: sessionRetryA fuel extra σ' buf' cs' t' more'
    | (it, buf', σ', cs', t', more') =>
      match extra with
      | 0 => [it]
      | e + 1 => it :: sessionRetryA fuel e σ' buf' cs' t' more'

/-- the same for the blocking connection (each call is `recvS`, with its fixed, doubling buffer) -/
def recvRetryS (σ : BState) (b : SBuf) (cs : List Bytes) (t : Term) :
    List ScriptPiece → Item × SBuf × BState × List Bytes × Term × List ScriptPiece
  | [] => ((recvS σ b cs t).1, (recvS σ b cs t).2.1, (recvS σ b cs t).2.2.2, (recvS σ b cs t).2.2.1, t, [])
  | p :: more =>
    match recvS σ b cs t with
    | (.io _, b', _, σ') => recvRetryS σ' b' p.1 p.2 more
    | (it, b', cs', σ') => (it, b', σ', cs', t, p :: more)

def sessionRetryS : Nat → Nat → BState → SBuf → List Bytes → Term → List ScriptPiece → List Item
  | 0, _, _, _, _, _, _ => []
  | fuel + 1, extra, σ, b, cs, t, more =>
    match recvRetryS σ b cs t more with
    | (.resp r, b', σ', cs', t', more') => .resp r :: sessionRetryS fuel extra σ' b' cs' t' more'
    | (it, b', σ', cs', t', more') =>
      match extra with
      | 0 => [it]
      | e + 1 => it :: sessionRetryS fuel e σ' b' cs' t' more'

/-- the script without the failures: all chunks in order … -/
def flatScript (cs : List Bytes) (more : List ScriptPiece) : List Bytes := cs ++ more.flatMap (·.1)

/-- … ending the way the last piece ends -/
def lastTerm (t : Term) : List ScriptPiece → Term
  | [] => t
  | p :: more => lastTerm p.2 more

/-- every piece but the last ends in a (recoverable) read failure -/
def IoChain : Term → List ScriptPiece → Prop
  | _, [] => True
  | t, p :: more => (∃ k, t = .ioerr k) ∧ IoChain p.2 more

/-! ## `write_all` over a transport that takes fewer bytes than offered

`send` / `send_list` render the request into one buffer and hand it to `write_all`, which calls
`write` until the buffer is used up (a write of 0 bytes is the `WriteZero` error). `caps` = how many
bytes the transport accepts on the 1st, 2nd, … call (when the list is used up it accepts everything).
The task model (`Mpd/Loop.lean`) writes atomically; `writeAll_flatten` (Lemmas/Conn.lean) is why that
is a sound abstraction: whatever the capacities, the pieces written are, in order, exactly the buffer. -/

/-- the pieces `write_all` writes; `none` = `WriteZero` -/
def writeAll : List Nat → Bytes → Option (List Bytes)
  | [], buf => some (if buf.isEmpty then [] else [buf])
  | c :: cs, buf =>
    if buf.isEmpty then some []
    else if c = 0 then none
    else (writeAll cs (buf.drop c)).map (buf.take c :: ·)

/-! ## connect -/

inductive ConnectResult where
  | ok (version : Bytes)
  | invalid
  | unexpectedEof
  | io (kind : Nat)
deriving Repr, DecidableEq

/-- `AsyncConnection::connect`: read until the greeting parses; whatever was read past the
greeting's LF in the same read is discarded (`recv_buf.clear()`). Returns the rest of the script. -/
def connectA (buf : Bytes) : List Bytes → Term → ConnectResult × List Bytes
  | [], term => (match term with | .eof => .unexpectedEof | .ioerr k => .io k, [])
  | c :: cs, term =>
    if c.isEmpty then (.unexpectedEof, cs) else
    match greeting (buf ++ c) with
    | .ok v _ => (.ok v, cs)
    | .incomplete => connectA (buf ++ c) cs term
    | _ => (.invalid, cs)

/-- `Connection::connect` (blocking): same with the fixed buffer that doubles when full. -/
def connectS : Nat → SBuf → List Bytes → Term → ConnectResult × SBuf × List Bytes
  | 0, b, chunks, _ => (.invalid, b, chunks)
  | fuel + 1, b, chunks, term =>
    match readChunk (b.cap - b.data.length) chunks with
    | none => (match term with | .eof => .unexpectedEof | .ioerr k => .io k, b, [])
    | some (got, cs) =>
      if got.isEmpty then (.unexpectedEof, b, cs) else
      let b' := afterRead b b.data got
      match greeting b'.data with
      | .ok v _ => (.ok v, { b' with data := [] }, cs)     -- total_received: 0
      | .incomplete => connectS fuel b' cs term
      | _ => (.invalid, b', cs)

end Mpd.Conn
