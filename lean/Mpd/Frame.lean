import Mpd.Basic
import Mpd.AFrame
/-!
# Model of `mpd_protocol::response::frame` and of the frame iterators of `mpd_protocol::response`

Concrete representation, mirrored from the Rust:

* `Frame { fields: FieldsContainer(Vec<Option<(Arc<str>, String)>>), binary: Option<BytesMut> }` —
  a vector of *slots*; `Frame::get` leaves a hole (`None`) in the slot it takes the value out of.
* `Fields<'a>(slice::Iter<'a, Option<…>>)` and `IntoIter { iter: vec::IntoIter<Option<…>>, binary }` —
  a double-ended std iterator over the slot vector is modelled by the list of slots it has not
  yielded yet: `next` pops the head, `next_back` pops the last element. The `Iterator` /
  `DoubleEndedIterator` impls of the crate skip holes by calling themselves again.
* `Response { frames: Vec<Frame>, error: Option<Error> }`, `FramesRef` / `Frames` (identical logic
  on borrowed / owned data): `next` yields frames, then `error.take()`; `next_back` yields
  `error.take()` first, then frames from the back.

`std` adaptors used by the crate (`find_map`, `count`, `collect`, `rev`) are modelled by what their
default implementations do: call `next` / `next_back` until it returns `None`.
Core Lean only (the driver links this file).
-/
namespace Mpd

/-- one element of `FieldsContainer`: `Some((key, value))` or the hole `None` left by `Frame::get` -/
abbrev Slot := Option (Bytes × Bytes)

/-- `mpd_protocol::response::frame::Frame` -/
structure Frame where
  slots : List Slot := []
  binary : Option Bytes := none
deriving DecidableEq, Repr, Inhabited

/-! ## the std double-ended iterator over the slot vector (`slice::Iter`, `vec::IntoIter`) -/
namespace SlotIter

/-- `slice::Iter::next` / `vec::IntoIter::next`: pop the first remaining element -/
def popFront {α : Type} : List α → Option (α × List α)
  | [] => none
  | a :: rest => some (a, rest)

/-- `slice::Iter::next_back` / `vec::IntoIter::next_back`: pop the last remaining element -/
def popBack {α : Type} (l : List α) : Option (α × List α) :=
  match l.getLast? with
  | none => none
  | some a => some (a, l.dropLast)

theorem popFront_eq_none_iff {α : Type} {l : List α} : popFront l = none ↔ l = [] := by
  cases l <;> simp [popFront]

theorem popFront_eq_some_iff {α : Type} {l rest : List α} {a : α} :
    popFront l = some (a, rest) ↔ l = a :: rest := by
  cases l <;> simp [popFront]

theorem popFront_length {α : Type} {l : List α} {a : α} {rest : List α}
    (h : popFront l = some (a, rest)) : rest.length < l.length := by
  rw [popFront_eq_some_iff.mp h]; simp

theorem popBack_eq_none_iff {α : Type} {l : List α} : popBack l = none ↔ l = [] := by
  rcases List.eq_nil_or_concat l with rfl | ⟨t, b, rfl⟩ <;> simp [popBack]

theorem popBack_eq_some_iff {α : Type} {l rest : List α} {a : α} :
    popBack l = some (a, rest) ↔ l = rest ++ [a] := by
  rcases List.eq_nil_or_concat l with rfl | ⟨t, b, rfl⟩ <;> simp [popBack, and_comm]

theorem popBack_length {α : Type} {l : List α} {a : α} {rest : List α}
    (h : popBack l = some (a, rest)) : rest.length < l.length := by
  rw [popBack_eq_some_iff.mp h]; simp

end SlotIter

/-! ## `Fields` (borrowed) — `impl Iterator / DoubleEndedIterator for Fields<'_>` -/
namespace Fields
open SlotIter

/-- ```
fn next(&mut self) -> Option<Self::Item> {
    match self.0.next() {
        None => None,
        Some(None) => self.next(),
        Some(Some((k, v))) => Some((k.as_ref(), v.as_ref())),
    }
}
``` -/
def next (it : List Slot) : Option (Bytes × Bytes) × List Slot :=
  match h : popFront it with
  | none => (none, it)
  | some (none, rest) =>
    have : rest.length < it.length := popFront_length h
    next rest
  | some (some kv, rest) => (some kv, rest)
termination_by it.length

/-- ```
fn next_back(&mut self) -> Option<Self::Item> {
    match self.0.next_back() {
        None => None,
        Some(None) => self.next_back(),
        Some(Some((k, v))) => Some((k.as_ref(), v.as_ref())),
    }
}
``` -/
def nextBack (it : List Slot) : Option (Bytes × Bytes) × List Slot :=
  match h : popBack it with
  | none => (none, it)
  | some (none, rest) =>
    have : rest.length < it.length := popBack_length h
    nextBack rest
  | some (some kv, rest) => (some kv, rest)
termination_by it.length

/-- a yielding step shrinks the underlying iterator (termination of every std adaptor below) -/
theorem next_length (it : List Slot) {kv : Bytes × Bytes} {rest : List Slot}
    (h : next it = (some kv, rest)) : rest.length < it.length := by
  fun_induction next it with
  | case1 it hp => cases h
  | case2 it rest' hp hlt ih => exact Nat.lt_trans (ih h) hlt
  | case3 it kv' rest' hp => cases h; exact popFront_length hp

theorem nextBack_length (it : List Slot) {kv : Bytes × Bytes} {rest : List Slot}
    (h : nextBack it = (some kv, rest)) : rest.length < it.length := by
  fun_induction nextBack it with
  | case1 it hp => cases h
  | case2 it rest' hp hlt ih => exact Nat.lt_trans (ih h) hlt
  | case3 it kv' rest' hp => cases h; exact popBack_length hp

/-- `Iterator::find_map` (default implementation: `while let Some(x) = self.next()`, stop at the
first `Some`) -/
def findMap {β : Type} (p : Bytes × Bytes → Option β) (it : List Slot) : Option β :=
  match h : next it with
  | (none, _) => none
  | (some kv, rest) =>
    have : rest.length < it.length := next_length it h
    match p kv with
    | some b => some b
    | none => findMap p rest
termination_by it.length

/-- `Iterator::fold` (default implementation: `while let Some(x) = self.next() { acc = f(acc, x) }`);
`count()` and `collect::<Vec<_>>()` are instances -/
def fold {β : Type} (f : β → Bytes × Bytes → β) (acc : β) (it : List Slot) : β :=
  match h : next it with
  | (none, _) => acc
  | (some kv, rest) =>
    have : rest.length < it.length := next_length it h
    fold f (f acc kv) rest
termination_by it.length

/-- the same driven from the back: `self.rev().fold(..)` -/
def foldBack {β : Type} (f : β → Bytes × Bytes → β) (acc : β) (it : List Slot) : β :=
  match h : nextBack it with
  | (none, _) => acc
  | (some kv, rest) =>
    have : rest.length < it.length := nextBack_length it h
    foldBack f (f acc kv) rest
termination_by it.length

/-- `Iterator::count` -/
def count (it : List Slot) : Nat := fold (fun c _ => c + 1) 0 it

/-- `iter.collect::<Vec<_>>()` -/
def collect (it : List Slot) : List (Bytes × Bytes) := fold (fun acc kv => acc ++ [kv]) [] it

/-- `iter.rev().collect::<Vec<_>>()` -/
def collectBack (it : List Slot) : List (Bytes × Bytes) := foldBack (fun acc kv => acc ++ [kv]) [] it

end Fields

/-! ## `Frame` methods -/
namespace Frame

/-- `Frame::fields`: `Fields(self.fields.0.iter())` — the iterator starts on the whole slot vector -/
def fields (f : Frame) : List Slot := f.slots

/-- `Frame::fields_len`: `self.fields().count()` -/
def fieldsLen (f : Frame) : Nat := Fields.count f.fields

/-- `Frame::has_binary` -/
def hasBinary (f : Frame) : Bool := f.binary.isSome

/-- `Frame::is_empty`: `self.fields_len() == 0 && !self.has_binary()` -/
def isEmpty (f : Frame) : Bool := f.fieldsLen == 0 && !f.hasBinary

/-- `Frame::find`: `self.fields().find_map(|(k, v)| if k == key { Some(v) } else { None })`
(`str == str`: bytewise, case-sensitive) -/
def find (f : Frame) (key : Bytes) : Option Bytes :=
  Fields.findMap (fun kv => if kv.1 == key then some kv.2 else none) f.fields

/-- `Frame::binary` -/
def getBinary (f : Frame) : Option Bytes := f.binary

/-- `self.fields.0.iter_mut().find_map(|field| …)` of `Frame::get`: walk the slots from the front;
a hole is skipped (`None => return None`), a slot with a different key is skipped, the first slot
with an equal key is `take()`n, which leaves a hole in its place, and the walk stops. -/
def getSlots (key : Bytes) : List Slot → Option Bytes × List Slot
  | [] => (none, [])
  | none :: rest =>
    let r := getSlots key rest
    (r.1, none :: r.2)
  | some (k, v) :: rest =>
    if k == key then (some v, none :: rest)
    else
      let r := getSlots key rest
      (r.1, some (k, v) :: r.2)

/-- `Frame::get` -/
def get (f : Frame) (key : Bytes) : Option Bytes × Frame :=
  let r := getSlots key f.slots
  (r.1, { f with slots := r.2 })

/-- `Frame::take_binary`: `self.binary.take()` -/
def takeBinary (f : Frame) : Option Bytes × Frame := (f.binary, { f with binary := none })

/-- ABSTRACTION to the ordered multimap `AFrame`: forget the holes. C19 proves every method above
commutes with it, so clients of `Frame` may reason about `AFrame` only. -/
def abs (f : Frame) : AFrame := { fields := f.slots.filterMap id, binary := f.binary }

/-- a frame as the parser builds it: one filled slot per line, no holes -/
def ofFields (fields : List (Bytes × Bytes)) (binary : Option Bytes) : Frame :=
  { slots := fields.map some, binary := binary }

end Frame

/-! ## `IntoIter` (owned) -/

/-- `frame::IntoIter { iter: vec::IntoIter<Option<(Arc<str>, String)>>, binary: Option<BytesMut> }` -/
structure IntoIter where
  iter : List Slot
  binary : Option Bytes
deriving DecidableEq, Repr, Inhabited

/-- `impl IntoIterator for Frame` -/
def Frame.intoIter (f : Frame) : IntoIter := { iter := f.slots, binary := f.binary }

namespace IntoIter
open SlotIter

/-- ```
fn next(&mut self) -> Option<Self::Item> {
    match self.iter.next() {
        None => None,
        Some(None) => self.next(),
        Some(value) => value,
    }
}
``` -/
def next (it : IntoIter) : Option (Bytes × Bytes) × IntoIter :=
  match h : popFront it.iter with
  | none => (none, it)
  | some (none, rest) =>
    have : rest.length < it.iter.length := popFront_length h
    next { it with iter := rest }
  | some (some kv, rest) => (some kv, { it with iter := rest })
termination_by it.iter.length

/-- `next_back`: the same with `self.iter.next_back()` -/
def nextBack (it : IntoIter) : Option (Bytes × Bytes) × IntoIter :=
  match h : popBack it.iter with
  | none => (none, it)
  | some (none, rest) =>
    have : rest.length < it.iter.length := popBack_length h
    nextBack { it with iter := rest }
  | some (some kv, rest) => (some kv, { it with iter := rest })
termination_by it.iter.length

/-- `IntoIter::take_binary`: `self.binary.take()` -/
def takeBinary (it : IntoIter) : Option Bytes × IntoIter := (it.binary, { it with binary := none })

end IntoIter

/-! ## `Response`, `FramesRef`, `Frames` -/

/-- `mpd_protocol::response::Error` -/
structure Err where
  code : Nat := 0
  commandIndex : Nat := 0
  currentCommand : Option Bytes := none
  message : Bytes := []
deriving DecidableEq, Repr, Inhabited

/-- `mpd_protocol::response::Response` -/
structure Response where
  frames : List Frame := []
  error : Option Err := none
deriving DecidableEq, Repr, Inhabited

/-- `FramesRef { frames: slice::Iter<Frame>, error: Option<&Error> }` and
`Frames { frames: vec::IntoIter<Frame>, error: Option<Error> }`: the two impls are the same code on
borrowed / owned data, one model serves both. `frames` = the frames not yet yielded. -/
structure FramesIter where
  frames : List Frame
  error : Option Err
deriving DecidableEq, Repr, Inhabited

namespace FramesIter
open SlotIter

/-- ```
fn next(&mut self) -> Option<Self::Item> {
    if let Some(frame) = self.frames.next() { Some(Ok(frame)) } else { self.error.take().map(Err) }
}
``` -/
def next (it : FramesIter) : Option (Except Err Frame) × FramesIter :=
  match popFront it.frames with
  | some (f, rest) => (some (.ok f), { it with frames := rest })
  | none =>
    match it.error with            -- `self.error.take().map(Err)`
    | some e => (some (.error e), { it with error := none })
    | none => (none, it)

/-- ```
fn next_back(&mut self) -> Option<Self::Item> {
    if let Some(e) = self.error.take() { Some(Err(e)) } else { self.frames.next_back().map(Ok) }
}
``` -/
def nextBack (it : FramesIter) : Option (Except Err Frame) × FramesIter :=
  match it.error with              -- `self.error.take()`
  | some e => (some (.error e), { it with error := none })
  | none =>
    match popBack it.frames with
    | some (f, rest) => (some (.ok f), { it with frames := rest })
    | none => (none, it)

/-- `size_hint`: `let len = self.frames.len() + if self.error.is_some() { 1 } else { 0 }; (len, Some(len))` -/
def sizeHint (it : FramesIter) : Nat × Option Nat :=
  let len := it.frames.length + (if it.error.isSome then 1 else 0)
  (len, some len)

end FramesIter

namespace Response

/-- `Response::frames` (→ `FramesRef`) and `impl IntoIterator for Response` (→ `Frames`) -/
def iter (r : Response) : FramesIter := { frames := r.frames, error := r.error }

/-- `Response::is_error` -/
def isError (r : Response) : Bool := r.error.isSome

/-- `Response::is_success` -/
def isSuccess (r : Response) : Bool := !r.isError

/-- `Response::successful_frames` -/
def successfulFrames (r : Response) : Nat := r.frames.length

/-- result of `into_single_frame`; its `unwrap()` is an explicit outcome -/
inductive Single where
  | val (r : Except Err Frame)
  | panic
deriving DecidableEq, Repr

/-- `Response::into_single_frame`: `self.into_iter().next().unwrap()` -/
def intoSingleFrame (r : Response) : Single :=
  match r.iter.next.1 with
  | some x => .val x
  | none => .panic

/-- `Response::empty()`: a single empty frame -/
def empty : Response := { frames := [{}], error := none }

end Response

/-! ## How `ResponseBuilder` assembles a `Response` (the part that matters for `into_single_frame`'s
`unwrap`: which `(frames, error)` shapes can be produced) -/
namespace Assemble

/-- `ParsedComponent` as consumed by `ResponseBuilder::parse` (binary already cut out of the buffer) -/
inductive Comp where
  | field (k v : Bytes)
  | binary (b : Bytes)
  | endOfFrame
  | endOfResponse
  | error (e : Err)
deriving DecidableEq, Repr

/-- `ResponseState` -/
inductive State where
  | initial
  | inProgress (current : Frame)
  | listInProgress (current : Frame) (completed : List Frame)
deriving DecidableEq, Repr

/-- `FieldsContainer::push_field` -/
def pushField (f : Frame) (k v : Bytes) : Frame := { f with slots := f.slots ++ [some (k, v)] }

/-- one component: new state and, for `OK` / `ACK`, the finished response
(`field`, `binary`, `finish_frame`, `finish`, `error` of `ResponseBuilder`) -/
def step (s : State) : Comp → State × Option Response
  | .field k v =>
    match s with
    | .initial => (.inProgress (pushField {} k v), none)
    | .inProgress cur => (.inProgress (pushField cur k v), none)
    | .listInProgress cur done => (.listInProgress (pushField cur k v) done, none)
  | .binary b =>
    match s with
    | .initial => (.inProgress { binary := some b }, none)
    | .inProgress cur => (.inProgress { cur with binary := some b }, none)
    | .listInProgress cur done => (.listInProgress { cur with binary := some b } done, none)
  | .endOfFrame =>
    match s with
    | .initial => (.listInProgress {} [{}], none)
    | .inProgress cur => (.listInProgress {} [cur], none)
    | .listInProgress cur done => (.listInProgress {} (done ++ [cur]), none)
  | .endOfResponse =>
    match s with
    | .initial => (.initial, some Response.empty)
    | .inProgress cur => (.initial, some { frames := [cur], error := none })
    | .listInProgress _ done => (.initial, some { frames := done, error := none })
  | .error e =>
    match s with
    | .initial => (.initial, some { frames := [], error := some e })
    | .inProgress _ => (.initial, some { frames := [], error := some e })
    | .listInProgress _ done => (.initial, some { frames := done, error := some e })

/-- `ResponseBuilder::parse` on a component stream: the responses completed, in order, and the
state left (each `receive` starts a fresh builder in `Initial`, which is the state after a
completed response) -/
def run (s : State) : List Comp → List Response × State
  | [] => ([], s)
  | c :: cs =>
    match step s c with
    | (s', some r) => let rest := run s' cs; (r :: rest.1, rest.2)
    | (s', none) => run s' cs

end Assemble

end Mpd
