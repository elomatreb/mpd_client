import Mpd.Typed.Song
import MpdSpec.Listing
import MpdProofs.Lemmas.Song
/-!
# C14 — song listings decode to the songs the server listed

Model: `Mpd/Typed/Song.lean` (branch-by-branch mirror of `responses/song.rs`); specification:
`MpdSpec/Listing.lean` (a listing = list of entries, each owning its lines; `Spec.songOf` computes a
song from its entry's own lines, independently of the decoder's fold). Listings are arbitrary: any
number of entries, any lines in any order and multiplicity, directory / playlist entries anywhere;
`ts` = the build's `Last-Modified` acceptance.

Proof: the three decoders are views of one `run` from the default builder (`decoders_eq_run`,
`Lemmas/Song.lean`), and `run` is compositional under `++`. Induction over the entries
(`run_listing`): after each entry the builder stands for that entry's song, or is the default one
(`AfterEntry`), so after a listing it is as its LAST entry leaves it, which is also how `currentsong`
is specified (`currentOf_eq`); within a song entry the line step is `field_line`
(`builderAbs b = Spec.songOf u ls` for the lines read so far).
-/
namespace Mpd.C14
open Mpd.Typed Mpd.SongLemmas

def rangeAbs (r : SongRange) : Spec.Dur × Option Spec.Dur := (r.start, r.stop)

def songAbs (s : Song) : Spec.AbsSong :=
  { url := s.url, duration := s.duration, format := s.format, lastModified := s.lastModified,
    tags := absTags s.tags }

def qsongAbs (q : SongInQueue) : Spec.AbsQSong :=
  { pos := q.position, id := q.id, prio := q.priority, range := q.range.map rangeAbs,
    song := songAbs q.song }

def builderAbs (b : Builder) : Spec.AbsQSong :=
  { pos := b.position, id := b.id, prio := b.priority, range := b.range.map rangeAbs,
    song := { url := b.url, duration := b.duration, format := b.format,
              lastModified := b.lastModified, tags := absTags b.tags } }

theorem builtSong_abs (b : Builder) : qsongAbs (builtSong b) = builderAbs b := rfl

theorem attrKeys_distinct : Spec.attrKeys.Pairwise (· ≠ ·) := by
  unfold Spec.attrKeys
  repeat rw [str_ofList]
  decide +kernel

attribute [local simp] builderAbs rangeAbs Spec.songOf lastOf_snoc durText_snoc tagsOf_snoc in
theorem field_line (ts : Bytes → Bool) (b : Builder) (u : Bytes) (pre : List (Bytes × Bytes)) (k v : Bytes)
    (hu : u ≠ []) (habs : builderAbs b = Spec.songOf u pre)
    (hpre : pre.all (Spec.wfLine ts) = true) (hl : Spec.wfLine ts (k, v) = true) :
    ∃ b', b.field ts k v = .ok (b', none) ∧ builderAbs b' = Spec.songOf u (pre ++ [(k, v)]) := by
  simp only [builderAbs, Spec.songOf, Spec.AbsQSong.mk.injEq, Spec.AbsSong.mk.injEq] at habs
  obtain ⟨hpos, hid, hprio, hrange, hurl, hdur, hfmt, hlm, htags⟩ := habs
  simp only [Spec.wfLine, Bool.and_eq_true, entryKeys_contains, Bool.not_eq_true'] at hl
  obtain ⟨⟨hkey, hstart⟩, hval⟩ := hl
  -- the comparisons between attribute names below are settled by these; no name is evaluated again
  have hne := attrKeys_distinct
  have hattr : ∀ K ∈ Spec.attrKeys, Spec.isAttrKey K = true := fun K h => List.elem_eq_true_of_mem h
  simp only [Spec.attrKeys, List.pairwise_cons, List.forall_mem_cons, List.not_mem_nil, false_imp_iff, implies_true,
    List.Pairwise.nil, and_true, ne_eq] at hne hattr
  rw [field_busy ts b k v (by rw [hurl]; exact hu), Builder.handleSongField, if_neg (hstart ▸ Bool.false_ne_true)]
  -- `delta`: the names are replaced inside the `Decidable` instances as well, so that `rw [if_neg _]` applies
  delta kDuration kTime kRange kFormat kLastModified kPrio kPos kId
  -- The decoder's tests are passed one by one, and those of `Spec.wfLine` (in `hval`) along with them.
  -- `subst k`, not `subst h1`: given the equation, `subst` evaluates the name looking for a variable.
  by_cases h1 : k = str "duration"
  · subst k
    rw [if_pos (.inl rfl)] at hval
    obtain ⟨d, hd⟩ := Option.isSome_iff_exists.mp hval
    refine ⟨{ b with duration := some d }, ?_, ?_⟩
    · rw [if_pos rfl, ← seconds_eq, hd]
    · simp [*]
  rw [if_neg h1]
  by_cases h2 : k = str "Time"
  · subst k
    rw [if_pos (.inr rfl)] at hval
    obtain ⟨d, hd⟩ := Option.isSome_iff_exists.mp hval
    rw [if_pos rfl]
    cases hx : Spec.durText pre with
    | none =>
      have hdn : b.duration = none := by rw [hdur, hx]; rfl
      refine ⟨{ b with duration := some d }, ?_, ?_⟩
      · rw [hdn, Option.isNone_none, if_pos rfl, ← seconds_eq, hd]
      · simp [*]
    | some x =>
      -- a duration is known already (its text was well-formed): the value is not looked at
      obtain ⟨d0, hd0⟩ := Option.isSome_iff_exists.mp (durText_wf ts pre x hpre hx)
      have hdn : b.duration = some d0 := by rw [hdur, hx]; exact hd0
      refine ⟨b, ?_, ?_⟩
      · rw [hdn]; rfl
      · simp [*]
  rw [if_neg h2]
  rw [if_neg (not_or.mpr ⟨h1, h2⟩)] at hval
  by_cases h3 : k = str "Range"
  · subst k
    rw [if_pos rfl, rangeOf_eq, Option.isSome_map] at hval
    obtain ⟨r, hr⟩ := Option.isSome_iff_exists.mp hval
    refine ⟨{ b with range := some r }, ?_, ?_⟩
    · rw [if_pos rfl, hr]
    · simp [rangeOf_eq, *]
  rw [if_neg h3] at hval ⊢
  by_cases h4 : k = str "Format"
  · subst k
    refine ⟨{ b with format := some v }, if_pos rfl, ?_⟩
    simp [*]
  rw [if_neg h4]
  by_cases h5 : k = str "Last-Modified"
  · subst k
    have hv : ts v = true := by simpa [hne] using hval
    refine ⟨{ b with lastModified := some v }, ?_, ?_⟩
    · rw [if_pos rfl, if_pos hv]
    · simp [*]
  rw [if_neg h5]
  by_cases h6 : k = str "Prio"
  · subst k
    rw [if_pos rfl] at hval
    obtain ⟨n, hn, hp⟩ : ∃ n, Spec.decimalL v = some n ∧ parseU8 v = some n :=
      parseUnsigned_of_decimalL 255 v hval
    refine ⟨{ b with priority := n }, ?_, ?_⟩
    · rw [if_pos rfl, hp]
    · simp [*]
  rw [if_neg h6] at hval ⊢
  by_cases h7 : k = str "Pos"
  · subst k
    rw [if_pos (.inl rfl)] at hval
    obtain ⟨n, hn, hp⟩ : ∃ n, Spec.decimalL v = some n ∧ parseUsize v = some n :=
      parseUnsigned_of_decimalL _ v hval
    refine ⟨{ b with position := n }, ?_, ?_⟩
    · rw [if_pos rfl, hp]
    · simp [*]
  rw [if_neg h7]
  by_cases h8 : k = str "Id"
  · subst k
    rw [if_pos (.inr rfl)] at hval
    obtain ⟨n, hn, hp⟩ : ∃ n, Spec.decimalL v = some n ∧ parseU64 v = some n :=
      parseUnsigned_of_decimalL _ v hval
    refine ⟨{ b with id := n }, ?_, ?_⟩
    · rw [if_pos rfl, hp]
    · simp [*]
  rw [if_neg h8]
  obtain ⟨t, ht⟩ := tryFrom_ok_of_wfKey k hkey
  have hk : ¬ Spec.isAttrKey k = true := by
    rw [isAttrKey_iff, not_or, not_or, not_or, not_or, not_or, not_or, not_or]
    exact ⟨h1, h2, h3, h4, h5, h6, h7, h8⟩
  refine ⟨{ b with tags := b.tags.push t v }, by rw [ht], ?_⟩
  simp [absTags_push, name_of_tryFrom k t ht, *]

theorem run_lines (ts : Bytes → Bool) (u : Bytes) (hu : u ≠ []) (ls : List (Bytes × Bytes)) :
    ∀ (b : Builder) (pre : List (Bytes × Bytes)), builderAbs b = Spec.songOf u pre →
      pre.all (Spec.wfLine ts) = true → ls.all (Spec.wfLine ts) = true →
      ∃ b', run ts b ls = .ok (b', []) ∧ builderAbs b' = Spec.songOf u (pre ++ ls) := by
  induction ls with
  | nil => intro b pre habs _ _; exact ⟨b, rfl, by simpa using habs⟩
  | cons kv rest ih =>
    intro b pre habs hpre hls
    obtain ⟨k, v⟩ := kv
    simp only [List.all_cons, Bool.and_eq_true] at hls
    obtain ⟨b1, hf, habs1⟩ := field_line ts b u pre k v hu habs hpre hls.1
    have hpre1 : (pre ++ [(k, v)]).all (Spec.wfLine ts) = true := by
      simp [List.all_append, hpre, hls.1]
    obtain ⟨b2, hr, habs2⟩ := ih b1 (pre ++ [(k, v)]) habs1 hpre1 hls.2
    refine ⟨b2, ?_, by simpa using habs2⟩
    simp [run, hf, hr]

theorem url_of_abs {b : Builder} {u : Bytes} {ls : List (Bytes × Bytes)}
    (h : builderAbs b = Spec.songOf u ls) : b.url = u := by
  simp only [builderAbs, Spec.songOf, Spec.AbsQSong.mk.injEq, Spec.AbsSong.mk.injEq] at h
  exact h.2.2.2.2.1

theorem abs_start (u : Bytes) : builderAbs { url := u } = Spec.songOf u [] := rfl

/-- what the builder holds once the lines of the entry `e` are read: the entry's song, or nothing -/
def AfterEntry (e : Spec.Entry) (b : Builder) : Prop :=
  match e with
  | .song u ls => u ≠ [] ∧ builderAbs b = Spec.songOf u ls
  | _ => b = {}

theorem AfterEntry.idle {e : Spec.Entry} {b : Builder} (h : AfterEntry e b) (hu : b.url = []) : b = {} := by
  cases e with
  | song u ls => exact absurd ((url_of_abs h.2).symm.trans hu) h.1
  | directory | playlist => exact h

theorem AfterEntry.songs {e : Spec.Entry} {b : Builder} (h : AfterEntry e b) :
    (pending b).toList.map qsongAbs = Spec.songsOfQ [e] := by
  cases e with
  | song u ls => simp [pending, url_of_abs h.2, h.1, builtSong_abs, h.2, Spec.songsOfQ]
  | directory | playlist => cases h; rfl

theorem field_entry_line (ts : Bytes → Bool) (b : Builder) (hb : b.url = [] → b = {}) (k p : Bytes)
    (hk : isStartField k = true) :
    b.field ts k p = .ok ((if k = kFile then { url := p } else {}), pending b) := by
  by_cases hu : b.url = []
  · cases hb hu
    rw [field_idle ts {} k p rfl, handleStartField_entry {} k p hk]
    rfl
  · rw [field_entry ts b k p hu hk, pending, if_neg hu]

/-- the three names an idle builder lets pass without starting a song -/
theorem ne_kFile : kDirectory ≠ kFile ∧ kPlaylist ≠ kFile ∧ kLastModified ≠ kFile := by
  unfold kDirectory kPlaylist kLastModified kFile
  repeat rw [str_ofList]
  decide +kernel

/-- the modification dates of a directory / playlist entry are skipped -/
theorem run_skip (ts : Bytes → Bool) (ls : List (Bytes × Bytes))
    (h : ls.all (·.1 == str "Last-Modified") = true) : run ts {} ls = .ok ({}, []) := by
  induction ls with
  | nil => rfl
  | cons kv rest ih =>
    obtain ⟨k, v⟩ := kv
    simp only [List.all_cons, Bool.and_eq_true, beq_iff_eq] at h
    obtain ⟨hk, hr⟩ := h
    subst k  -- not the pattern `rfl`, which evaluates the name
    have hne : str "Last-Modified" ≠ kFile := ne_kFile.2.2
    rw [run, field_idle ts {} _ v rfl, Builder.handleStartField, if_neg hne, if_pos (.inr (.inr rfl)),
      Outcome.map_ok]
    simp only [ih hr]
    rfl

theorem run_other (ts : Bytes → Bool) (b : Builder) (hb : b.url = [] → b = {}) (k p : Bytes)
    (hk : k = kDirectory ∨ k = kPlaylist) (ls : List (Bytes × Bytes))
    (hls : ls.all (·.1 == str "Last-Modified") = true) :
    run ts b ((k, p) :: ls) = .ok ({}, (pending b).toList) := by
  have hf := field_entry_line ts b hb k p ((isStartField_iff k).mpr (.inr hk))
  have hne : k ≠ kFile := by
    rcases hk with hk | hk
    · exact hk ▸ ne_kFile.1
    · exact hk ▸ ne_kFile.2.1
  rw [if_neg hne] at hf
  simp [run, hf, run_skip ts ls hls]

theorem run_entry (ts : Bytes → Bool) (b : Builder) (hb : b.url = [] → b = {}) (e : Spec.Entry)
    (he : Spec.wfEntry ts e = true) :
    ∃ b', run ts b (Spec.encEntry e) = .ok (b', (pending b).toList) ∧ AfterEntry e b' := by
  cases e with
  | song u ls =>
    simp only [Spec.wfEntry, Bool.and_eq_true, Bool.not_eq_true', List.isEmpty_eq_false_iff] at he
    have hf := field_entry_line ts b hb (str "file") u ((isStartField_iff _).mpr (.inl rfl))
    rw [if_pos (show str "file" = kFile from rfl)] at hf
    obtain ⟨b', hr, habs⟩ := run_lines ts u he.1 ls { url := u } [] (abs_start u) rfl he.2
    exact ⟨b', by simp [Spec.encEntry, run, hf, hr], he.1, habs⟩
  | directory p ls => exact ⟨{}, run_other ts b hb _ p (.inl rfl) ls he, rfl⟩
  | playlist p ls => exact ⟨{}, run_other ts b hb _ p (.inr rfl) ls he, rfl⟩

theorem songsOfQ_cons (e : Spec.Entry) (l : Spec.Listing) :
    Spec.songsOfQ (e :: l) = Spec.songsOfQ [e] ++ Spec.songsOfQ l := by
  cases e <;> simp [Spec.songsOfQ]

theorem currentOf_eq (l : Spec.Listing) :
    Spec.currentOf l = l.getLast?.bind fun e => (Spec.songsOfQ [e]).head? := by
  induction l with
  | nil => rfl
  | cons e l ih =>
    cases l with
    | nil => cases e <;> rfl
    | cons e' l' => rw [Spec.currentOf, ih, List.getLast?_cons_cons]

theorem run_listing (ts : Bytes → Bool) (l : Spec.Listing) (hl : Spec.WFlisting ts l = true) :
    ∀ b, (b.url = [] → b = {}) → ∃ b' songs, run ts b (Spec.encListing l) = .ok (b', songs) ∧
      (match l.getLast? with
       | some e => AfterEntry e b'
       | none => b' = b) ∧
      (songs ++ (pending b').toList).map qsongAbs = (pending b).toList.map qsongAbs ++ Spec.songsOfQ l := by
  induction l with
  | nil => intro b _; exact ⟨b, [], rfl, rfl, by simp [Spec.songsOfQ]⟩
  | cons e rest ih =>
    intro b hb
    simp only [Spec.WFlisting, List.all_cons, Bool.and_eq_true] at hl
    obtain ⟨b1, hr1, ha1⟩ := run_entry ts b hb e hl.1
    obtain ⟨b2, s2, hr2, ha2, hs2⟩ := ih hl.2 b1 ha1.idle
    refine ⟨b2, (pending b).toList ++ s2, ?_, ?_, ?_⟩
    · simp only [Spec.encListing, List.flatMap_cons] at hr2 ⊢
      simp [run_append, hr1, hr2]
    · cases rest with
      | nil => cases ha2; exact ha1
      | cons e' rest' => rwa [List.getLast?_cons_cons]
    · rw [List.append_assoc, List.map_append, hs2, ha1.songs, songsOfQ_cons e rest]

/-- **C14, songs in queue** (`playlistinfo` / `playlistid`: `Queue`, `QueueRange`). On every
well-formed listing the decoder succeeds and returns, in server order, exactly the songs the listing
denotes: one per `file` entry, each with the URL, duration (last `duration`, else first `Time`),
queue attributes, format, last-modified text and tag values (per tag, in line order) of its own
lines. Directory and playlist entries contribute nothing, and their modification dates reach no song. -/
theorem C14_queue (ts : Bytes → Bool) (l : Spec.Listing) (bin : Option Bytes)
    (h : Spec.WFlisting ts l = true) :
    ∃ songs, SongInQueue.fromFrameMulti ts ⟨Spec.encListing l, bin⟩ = .ok songs ∧
      songs.map qsongAbs = Spec.songsOfQ l := by
  obtain ⟨b', songs, hr, _, hs⟩ := run_listing ts l h {} (fun _ => rfl)
  exact ⟨_, by rw [(decoders_eq_run ts _).1, hr]; rfl, hs⟩

/-- on EVERY frame the plain decoder returns the queue decoder's songs without their queue attributes -/
theorem C14_songs_eq_queue (ts : Bytes → Bool) (f : AFrame) :
    Song.fromFrameMulti ts f = (SongInQueue.fromFrameMulti ts f).map (List.map (·.song)) := by
  rw [(decoders_eq_run ts f).1, (decoders_eq_run ts f).2.1, Outcome.map_map]
  rfl

/-- **C14, plain songs** (`find`, `listplaylistinfo`, `listallinfo`: `Find`, `GetPlaylist`,
`ListAllIn`): the same songs without their queue attributes. -/
theorem C14_songs (ts : Bytes → Bool) (l : Spec.Listing) (bin : Option Bytes)
    (h : Spec.WFlisting ts l = true) :
    ∃ songs, Song.fromFrameMulti ts ⟨Spec.encListing l, bin⟩ = .ok songs ∧
      songs.map songAbs = Spec.songsOf l := by
  obtain ⟨q, hq, ha⟩ := C14_queue ts l bin h
  refine ⟨q.map (·.song), by rw [C14_songs_eq_queue, hq]; rfl, ?_⟩
  rw [Spec.songsOf, ← ha, List.map_map, List.map_map]
  rfl

/-- **C14, single song** (`currentsong`: `CurrentSong`). The decoder keeps what is in progress at the
end of the listing: the LAST entry if it is a song and nothing otherwise (earlier songs are dropped
silently); so no entry ⇒ `None`, one song entry ⇒ that song. -/
theorem C14_current (ts : Bytes → Bool) (l : Spec.Listing) (bin : Option Bytes)
    (h : Spec.WFlisting ts l = true) :
    ∃ o, SongInQueue.fromFrameSingle ts ⟨Spec.encListing l, bin⟩ = .ok o ∧
      o.map qsongAbs = Spec.currentOf l := by
  obtain ⟨b', songs, hr, ha, _⟩ := run_listing ts l h {} (fun _ => rfl)
  refine ⟨pending b', by rw [(decoders_eq_run ts _).2.2, hr]; rfl, ?_⟩
  rw [currentOf_eq]
  cases hg : l.getLast? with
  | none => rw [hg] at ha; cases ha; rfl
  | some e =>
    rw [hg] at ha
    rw [Option.bind_some, ← ha.songs]
    cases pending b' <;> rfl

theorem C14_current_none (ts : Bytes → Bool) (bin : Option Bytes) :
    SongInQueue.fromFrameSingle ts ⟨Spec.encListing [], bin⟩ = .ok none := rfl

theorem C14_current_one (ts : Bytes → Bool) (u : Bytes) (ls : List (Bytes × Bytes)) (bin : Option Bytes)
    (h : Spec.WFlisting ts [.song u ls] = true) :
    ∃ s, SongInQueue.fromFrameSingle ts ⟨Spec.encListing [.song u ls], bin⟩ = .ok (some s) ∧
      qsongAbs s = Spec.songOf u ls := by
  obtain ⟨o, ho, habs⟩ := C14_current ts _ bin h
  cases o with
  | none => simp [Spec.currentOf] at habs
  | some s => exact ⟨s, ho, by simpa [Spec.currentOf] using habs⟩

/-- the property for every song-returning predefined command -/
theorem C14_commands (ts : Bytes → Bool) (l : Spec.Listing) (bin : Option Bytes)
    (h : Spec.WFlisting ts l = true) :
    (∀ c ∈ [SongCmd.queue, .queuerange], ∃ songs,
        response ts c ⟨Spec.encListing l, bin⟩ = .ok (.queue songs) ∧
        songs.map qsongAbs = Spec.songsOfQ l) ∧
    (∀ c ∈ [SongCmd.find, .getplaylist, .listallinfo], ∃ songs,
        response ts c ⟨Spec.encListing l, bin⟩ = .ok (.songs songs) ∧
        songs.map songAbs = Spec.songsOf l) ∧
    (∃ o, response ts .currentsong ⟨Spec.encListing l, bin⟩ = .ok (.current o) ∧
        o.map qsongAbs = Spec.currentOf l) := by
  obtain ⟨q, hq, hqa⟩ := C14_queue ts l bin h
  obtain ⟨s, hs, hsa⟩ := C14_songs ts l bin h
  obtain ⟨o, ho, hoa⟩ := C14_current ts l bin h
  refine ⟨?_, ?_, ⟨o, by simp [response, ho], hoa⟩⟩
  · intro c hc
    simp only [List.mem_cons, List.not_mem_nil, or_false] at hc
    rcases hc with rfl | rfl <;> exact ⟨q, by simp [response, hq], hqa⟩
  · intro c hc
    simp only [List.mem_cons, List.not_mem_nil, or_false] at hc
    rcases hc with rfl | rfl | rfl <;> exact ⟨s, by simp [response, hs], hsa⟩

/-- the attribute line `(k, v)`, arriving after the lines `pre` of the same song entry, is outside
the domain of its attribute (a legacy `Time` value is only looked at while no duration is known) -/
def badLine (ts : Bytes → Bool) (pre : List (Bytes × Bytes)) (k v : Bytes) : Prop :=
  (k = str "duration" ∧ parseDuration v = none) ∨
  (k = str "Time" ∧ parseDuration v = none ∧ ∀ e ∈ pre, e.1 ≠ str "duration" ∧ e.1 ≠ str "Time") ∨
  (k = str "Range" ∧ parseRange v = none) ∨
  (k = str "Prio" ∧ parseU8 v = none) ∨
  (k = str "Pos" ∧ parseUsize v = none) ∨
  (k = str "Id" ∧ parseU64 v = none) ∨
  (k = str "Last-Modified" ∧ ts v = false)

theorem isStartField_attr : ∀ k ∈ Spec.attrKeys, isStartField k = false := by
  unfold Spec.attrKeys isStartField kFile kDirectory kPlaylist
  repeat rw [str_ofList]
  decide +kernel

theorem field_bad (ts : Bytes → Bool) (b : Builder) (u : Bytes) (pre : List (Bytes × Bytes)) (k v : Bytes)
    (hu : u ≠ []) (habs : builderAbs b = Spec.songOf u pre) (hbad : badLine ts pre k v) :
    b.field ts k v = .terr := by
  have hurl := url_of_abs habs
  simp only [builderAbs, Spec.songOf, Spec.AbsQSong.mk.injEq, Spec.AbsSong.mk.injEq] at habs
  -- an attribute name starts no entry and differs from those the decoder tests before it
  have hst := isStartField_attr
  have hne := attrKeys_distinct.imp Ne.symm
  simp only [Spec.attrKeys, List.pairwise_cons, List.forall_mem_cons, List.not_mem_nil, false_imp_iff, implies_true,
    List.Pairwise.nil, and_true, ne_eq] at hst hne
  rw [field_busy ts b k v (by rw [hurl]; exact hu)]
  simp only [Builder.handleSongField, kDuration, kTime, kRange, kFormat, kLastModified, kPrio, kPos, kId]
  -- `subst k` and not the pattern `rfl`, which evaluates the name looking for a variable
  rcases hbad with ⟨hk, hv⟩ | ⟨hk, hv, hno⟩ | ⟨hk, hv⟩ | ⟨hk, hv⟩ | ⟨hk, hv⟩ | ⟨hk, hv⟩ | ⟨hk, hv⟩
  all_goals subst k
  · simp [hv, hst]
  · have : b.duration = none := by rw [habs.2.2.2.2.2.1, durText_none pre hno]; rfl
    simp [hv, this, hst, hne]
  all_goals simp [hv, hst, hne]

theorem run_terr_after (ts : Bytes → Bool) (b b1 : Builder) (s1 : List SongInQueue)
    (fs1 rest : List (Bytes × Bytes)) (k v : Bytes)
    (h1 : run ts b fs1 = .ok (b1, s1)) (h2 : b1.field ts k v = .terr) :
    run ts b (fs1 ++ (k, v) :: rest) = .terr := by
  rw [run_append, h1]
  simp [run, h2]

theorem decoders_of_run_terr (ts : Bytes → Bool) (fs : List (Bytes × Bytes)) (bin : Option Bytes)
    (h : run ts {} fs = .terr) :
    SongInQueue.fromFrameMulti ts ⟨fs, bin⟩ = .terr ∧ Song.fromFrameMulti ts ⟨fs, bin⟩ = .terr ∧
    SongInQueue.fromFrameSingle ts ⟨fs, bin⟩ = .terr := by
  simp [decoders_eq_run, h]

/-- **out-of-domain attribute value ⇒ typed-response error** (never a wrong value), wherever the
song entry stands in an otherwise arbitrary listing whose earlier part is well-formed -/
theorem C14_bad_value (ts : Bytes → Bool) (l1 l2 : Spec.Listing) (u : Bytes)
    (ls1 ls2 : List (Bytes × Bytes)) (k v : Bytes) (bin : Option Bytes)
    (h1 : Spec.WFlisting ts l1 = true) (hu : u ≠ []) (hls : ls1.all (Spec.wfLine ts) = true)
    (hbad : badLine ts ls1 k v) :
    let f : AFrame := ⟨Spec.encListing (l1 ++ [.song u (ls1 ++ (k, v) :: ls2)] ++ l2), bin⟩
    SongInQueue.fromFrameMulti ts f = .terr ∧ Song.fromFrameMulti ts f = .terr ∧
    SongInQueue.fromFrameSingle ts f = .terr := by
  intro f
  apply decoders_of_run_terr
  -- up to the bad line the listing is a well-formed one ending in the song entry read so far
  have hwf : Spec.WFlisting ts (l1 ++ [.song u ls1]) = true := by
    simp [Spec.WFlisting, Spec.wfEntry, hu, hls] at h1 ⊢
    exact h1
  obtain ⟨b, s, hr, ha, _⟩ := run_listing ts _ hwf {} (fun _ => rfl)
  rw [List.getLast?_concat] at ha
  have : Spec.encListing (l1 ++ [.song u (ls1 ++ (k, v) :: ls2)] ++ l2) =
      Spec.encListing (l1 ++ [.song u ls1]) ++ (k, v) :: (ls2 ++ Spec.encListing l2) := by
    simp [Spec.encListing, Spec.encEntry]
  rw [this]
  exact run_terr_after ts {} b _ _ _ k v hr (field_bad ts b u ls1 k v hu ha.2 hbad)

/-- a line that is neither an entry line nor a modification date, arriving while no song is in
progress (before the first entry, or among the lines of a directory / playlist entry), is a
typed-response error -/
theorem C14_stray_line (ts : Bytes → Bool) (l1 : Spec.Listing) (dates rest : List (Bytes × Bytes))
    (k v : Bytes) (bin : Option Bytes)
    (h1 : Spec.WFlisting ts l1 = true)
    (hlast : l1 = [] ∨ ∃ l0 e, l1 = l0 ++ [e] ∧ ∀ u ls, e ≠ .song u ls)
    (hdates : dates.all (·.1 == str "Last-Modified") = true)
    (hk : k ≠ str "file" ∧ k ≠ str "directory" ∧ k ≠ str "playlist" ∧ k ≠ str "Last-Modified") :
    let f : AFrame := ⟨Spec.encListing l1 ++ dates ++ (k, v) :: rest, bin⟩
    SongInQueue.fromFrameMulti ts f = .terr ∧ Song.fromFrameMulti ts f = .terr ∧
    SongInQueue.fromFrameSingle ts f = .terr := by
  intro f
  apply decoders_of_run_terr
  obtain ⟨b1, s1, hr1, ha, _⟩ := run_listing ts l1 h1 {} (fun _ => rfl)
  have hb : b1 = {} := by
    rcases hlast with rfl | ⟨l0, e, rfl, hne⟩
    · exact ha
    · rw [List.getLast?_concat] at ha
      cases e with
      | song u ls => exact absurd rfl (hne u ls)
      | directory | playlist => exact ha
  subst hb
  have hskip : run ts {} (Spec.encListing l1 ++ dates) = .ok ({}, s1 ++ []) := by
    rw [run_append, hr1]
    simp [run_skip ts dates hdates]
  have hfield : ({} : Builder).field ts k v = .terr := by
    simp [Builder.field, Builder.handleStartField, kFile, kDirectory, kPlaylist, kLastModified, hk.1,
      hk.2.1, hk.2.2.1, hk.2.2.2]
  exact run_terr_after ts {} {} _ _ _ k v hskip hfield

/-- every key of the map is the tag `Tag::try_from` yields for its own protocol name (so the key is
determined by its name) -/
def CanonTags (m : TagMap) : Prop := ∀ e ∈ m, Tag.tryFrom e.1.name = .ok e.1

theorem canonTags_nil : CanonTags [] := fun _ h => absurd h List.not_mem_nil

theorem push_canon (m : TagMap) (t : Tag) (v : Bytes) (hm : CanonTags m)
    (ht : Tag.tryFrom t.name = .ok t) : CanonTags (m.push t v) := by
  induction m with
  | nil => exact List.forall_mem_cons.mpr ⟨ht, canonTags_nil⟩
  | cons e0 rest ih =>
    obtain ⟨h0, hrest⟩ := List.forall_mem_cons.mp hm
    simp only [TagMap.push]
    split
    · exact List.forall_mem_cons.mpr ⟨h0, hrest⟩
    · split
      · exact List.forall_mem_cons.mpr ⟨ht, hm⟩
      · exact List.forall_mem_cons.mpr ⟨h0, ih hrest⟩

theorem C14_tag_view_injective (m1 m2 : TagMap) (h1 : CanonTags m1) (h2 : CanonTags m2)
    (h : absTags m1 = absTags m2) : m1 = m2 := by
  induction m1 generalizing m2 with
  | nil => cases m2 <;> simp_all [absTags]
  | cons e1 r1 ih =>
    cases m2 with
    | nil => simp [absTags] at h
    | cons e2 r2 =>
      obtain ⟨a1, hr1⟩ := List.forall_mem_cons.mp h1
      obtain ⟨a2, hr2⟩ := List.forall_mem_cons.mp h2
      simp only [absTags, List.map_cons, List.cons.injEq, Prod.mk.injEq] at h
      obtain ⟨⟨hn, hv⟩, hr⟩ := h
      -- equal names, both keys canonical: the same key
      rw [hn, a2] at a1
      rw [Prod.ext (Except.ok.inj a1).symm hv, ih r2 hr1 hr2 hr]

theorem field_canon (ts : Bytes → Bool) (b b' : Builder) (k v : Bytes) (o : Option SongInQueue)
    (hb : CanonTags b.tags) (h : b.field ts k v = .ok (b', o)) :
    CanonTags b'.tags ∧ ∀ s, o = some s → CanonTags s.song.tags := by
  have hnone : ∀ s, (none : Option SongInQueue) = some s → CanonTags s.song.tags :=
    fun _ h => absurd h (Option.some_ne_none _).symm
  by_cases hu : b.url = []
  · -- no song in progress: the tags stay as they are
    rw [field_idle ts b k v hu, Builder.handleStartField] at h
    split at h
    · cases h; exact ⟨hb, hnone⟩
    · split at h
      · cases h; exact ⟨hb, hnone⟩
      · cases h
  cases hs : isStartField k with
  | true =>
    -- an entry line: the builder's tags go out with the completed song, the fresh builder has none
    rw [field_entry ts b k v hu hs] at h
    cases h
    exact ⟨by split <;> exact canonTags_nil, fun s hs => by cases hs; exact hb⟩
  | false =>
    have hl := handleSongField_line ts b k v hs
    rw [← field_busy ts b k v hu, h] at hl
    obtain ⟨rfl, hl⟩ := hl
    refine ⟨?_, hnone⟩
    split at hl
    · rw [hl]; exact hb
    · obtain ⟨t, ht, hl⟩ := hl
      rw [hl]; exact push_canon _ _ _ hb (C20.C20_roundtrip_producible k t ht)

theorem run_canon (ts : Bytes → Bool) (fs : List (Bytes × Bytes)) (b b' : Builder) (songs : List SongInQueue)
    (hb : CanonTags b.tags) (h : run ts b fs = .ok (b', songs)) :
    CanonTags b'.tags ∧ ∀ s ∈ songs, CanonTags s.song.tags := by
  fun_induction run ts b fs generalizing b' songs with
  | case1 b => cases h; exact ⟨hb, fun _ hs => absurd hs List.not_mem_nil⟩
  | case2 b k v rest b1 o hf bf ss hr ih =>
    cases h
    obtain ⟨h1, ho⟩ := field_canon ts b b1 k v o hb hf
    obtain ⟨h2, hs⟩ := ih bf ss h1 hr
    exact ⟨h2, fun s hs' => (List.mem_append.mp hs').elim (fun h => ho s (by simpa using h)) (hs s)⟩
  | case3 | case4 | case5 | case6 => cases h

/-- **the decoded tag keys are canonical, for EVERY frame**. Together with `C14_tag_view_injective`
this makes the name view used in `C14_queue` / `C14_songs` lossless: equal views ⇒ equal maps. -/
theorem C14_tags_canonical (ts : Bytes → Bool) (f : AFrame) (songs : List SongInQueue)
    (h : SongInQueue.fromFrameMulti ts f = .ok songs) : ∀ s ∈ songs, CanonTags s.song.tags := by
  rw [(decoders_eq_run ts f).1, Outcome.map_eq_ok_iff] at h
  obtain ⟨⟨bf, ss⟩, rfl, hr⟩ := h
  obtain ⟨hbf, hss⟩ := run_canon ts f.fields {} bf ss canonTags_nil hr
  intro s hs
  rcases List.mem_append.mp hs with hs | hs
  · exact hss s hs
  · -- the last song carries the builder's tags
    unfold pending at hs
    split at hs
    · cases hs
    · cases List.mem_singleton.mp hs
      exact hbf

theorem C14_tags_canonical_songs (ts : Bytes → Bool) (f : AFrame) (songs : List Song)
    (h : Song.fromFrameMulti ts f = .ok songs) : ∀ s ∈ songs, CanonTags s.tags := by
  rw [C14_songs_eq_queue, Outcome.map_eq_ok_iff] at h
  obtain ⟨qs, rfl, hq⟩ := h
  intro s hs
  obtain ⟨q, hq', rfl⟩ := List.mem_map.mp hs
  exact C14_tags_canonical ts f qs hq q hq'

/-! The specification has the shape the property asks for: one song per `file` entry in listing
order, computed from that entry alone, so nothing (in particular no modification date of a directory
or playlist entry) travels from one entry to another. -/

theorem C14_spec_append (l1 l2 : Spec.Listing) :
    Spec.songsOfQ (l1 ++ l2) = Spec.songsOfQ l1 ++ Spec.songsOfQ l2 := by
  induction l1 with
  | nil => simp [Spec.songsOfQ]
  | cons e rest ih => rw [List.cons_append, songsOfQ_cons, songsOfQ_cons e rest, ih, List.append_assoc]

theorem C14_spec_entries (e : Spec.Entry) :
    Spec.songsOfQ [e] = match e with
      | .song u ls => [Spec.songOf u ls]
      | .directory _ _ => []
      | .playlist _ _ => [] := by
  cases e <;> simp [Spec.songsOfQ]

/-- the tag map of every denoted song has strictly increasing protocol names -/
theorem C14_spec_tags_sorted (u : Bytes) (ls : List (Bytes × Bytes)) :
    Sorted ((Spec.songOf u ls).song.tags.map (·.1)) := by
  simp only [Spec.songOf, Spec.tagsOf, Spec.tagsOfLines, List.map_map]
  have : ((fun x : Bytes × List Bytes => x.1) ∘ fun n => (n, Spec.valuesOf (Spec.tagLines ls) n)) = id := by
    funext n; rfl
  rw [this, List.map_id]
  exact sortNames_sorted _

/-- default build of the crate: every `Last-Modified` text is accepted -/
def tsAll : Bytes → Bool := fun _ => true

/-- a directory with its own modification date in the middle; a repeated tag (in two spellings);
`Time` before `duration` in the first song and after it in the second -/
def exListing : Spec.Listing :=
  [ .song (str "a.flac")
      [(str "Time", str "5"), (str "duration", str "5.5"), (str "Artist", str "x"),
       (str "artist", str "y"), (str "Pos", str "0"), (str "Id", str "1"), (str "Title", str "t")],
    .directory (str "d") [(str "Last-Modified", str "dir-date")],
    .song (str "b.flac")
      [(str "duration", str "7.25"), (str "Time", str "7"), (str "Last-Modified", str "song-date"),
       (str "Range", str "1.5-")] ]

theorem exListing_wf : Spec.WFlisting tsAll exListing = true := by decide +kernel

example : Spec.WFlisting tsAll exListing = true := exListing_wf

example : Spec.songsOfQ exListing =
    [ { pos := 0, id := 1, prio := 0, range := none,
        song := { url := str "a.flac", duration := some (5, 500000000), format := none,
                  lastModified := none,
                  tags := [(str "Artist", [str "x", str "y"]), (str "Title", [str "t"])] } },
      { pos := 0, id := 0, prio := 0, range := some ((1, 500000000), none),
        song := { url := str "b.flac", duration := some (7, 250000000), format := none,
                  lastModified := some (str "song-date"), tags := [] } } ] := by decide +kernel

example : ∃ songs, SongInQueue.fromFrameMulti tsAll ⟨Spec.encListing exListing, none⟩ = .ok songs ∧
    songs.map qsongAbs = Spec.songsOfQ exListing := C14_queue _ _ _ exListing_wf

example : (SongInQueue.fromFrameMulti tsAll ⟨Spec.encListing exListing, none⟩).map (List.map qsongAbs)
    = .ok (Spec.songsOfQ exListing) := by decide +kernel

example : Spec.currentOf exListing = some (Spec.songOf (str "b.flac")
    [(str "duration", str "7.25"), (str "Time", str "7"), (str "Last-Modified", str "song-date"),
     (str "Range", str "1.5-")]) := by decide +kernel
example : SongInQueue.fromFrameSingle tsAll
    ⟨Spec.encListing [.song (str "a") [], .directory (str "d") []], none⟩ = .ok none := by decide +kernel

/-- hypotheses of `C14_bad_value` are satisfiable: a 2^64-second duration after a valid prefix -/
example : badLine tsAll [(str "Title", str "t")] (str "duration") (str "18446744073709551616") :=
  Or.inl ⟨rfl, by rw [str_ofList]; decide +kernel⟩
example : badLine tsAll [(str "Title", str "t")] (str "Time") (str "abc") :=
  Or.inr (Or.inl ⟨rfl, by decide +kernel, by decide +kernel⟩)
example : Song.fromFrameMulti tsAll ⟨Spec.encListing
    [.song (str "a") [(str "Title", str "t"), (str "Prio", str "256")], .song (str "b") []], none⟩ = .terr := by
  decide +kernel
/-- garbage in a `Time` line after a `duration` line is NOT an error -/
example : (Song.fromFrameMulti tsAll ⟨Spec.encListing
    [.song (str "a") [(str "duration", str "1.5"), (str "Time", str "garbage")]], none⟩).map (List.map songAbs)
    = .ok [{ url := str "a", duration := some (1, 500000000), format := none, lastModified := none,
             tags := [] }] := by decide +kernel

/-- hypotheses of `C14_stray_line`: a tag line after a directory entry -/
example : Song.fromFrameMulti tsAll
    ⟨Spec.encListing [.song (str "a") [], .directory (str "d") []] ++
      [(str "Last-Modified", str "x")] ++ (str "Title", str "t") :: [], none⟩ = .terr :=
  (C14_stray_line tsAll _ _ _ _ _ none (by decide +kernel)
    (Or.inr ⟨[.song (str "a") []], .directory (str "d") [], rfl, by intro u ls h; cases h⟩)
    (by repeat rw [str_ofList]; decide +kernel) (by repeat rw [str_ofList]; decide +kernel)).2.1

/-- outside well-formedness: a `file` line with an EMPTY URL starts no song (empty URL = "no song in
progress"); if lines other than modification dates follow it, the reply is an error, otherwise the
entry is silently skipped -/
example : (Song.fromFrameMulti tsAll ⟨[(str "file", []), (str "file", str "b")], none⟩).map (List.map (·.url))
    = .ok [str "b"] := by decide +kernel
example : Song.fromFrameMulti tsAll ⟨[(str "file", []), (str "Title", str "t")], none⟩ = .terr := by
  decide +kernel

end Mpd.C14
