import Mpd.Client
import MpdProofs.Lemmas.Bytes
/-!
# C17 — album art is reassembled byte-exactly for any size and chunk limit

`Client.artNext` is the decision function of `Client::album_art` (what to request next / what to
return, given the decoded reply to the last request); the task-level model `Client.artStep`
executes exactly this function. `artRun` iterates it against a reply function and logs the requests.

The server is honest: it holds a picture of ANY size and serves it under chunk limits ≥ 1 that may
change from request to request (the real loop has no guard against zero-length chunks: `limit ≥ 1`
is the hypothesis). The chunk loop is one induction, `loop_v`, for the result and the request log
together; the statements for a constant limit `l` are the varying ones at `fun _ => l`. The
composition with concurrency (each request gets its own reply under every interleaving) is C01.
-/
namespace Mpd.C17
open Mpd.Client

abbrev Decoded := Except CmdErr (Option (Nat × Option Bytes × Bytes))

/-- iterate `album_art` against a reply function; the log lists (embedded?, offset) per request -/
def artRun (ask : Bool → Nat → Decoded) : Nat → ArtDecision → Option Final × List (Bool × Nat)
  | 0, _ => (none, [])
  | _ + 1, .done r => (some r, [])
  | f + 1, .request emb off ph =>
    let (r, log) := artRun ask f (artNext ph (ask emb off))
    (r, (emb, off) :: log)

/-- the very first thing `album_art` does -/
def start : ArtDecision := .request true 0 .first

/-- an honest server's reply for a source holding `pic`, chunk limit `l` -/
def chunkAt (pic : Bytes) (mime : Option Bytes) (l off : Nat) : Decoded :=
  .ok (some (pic.length, mime, (pic.drop off).take l))

/-- an honest server's reply when the chunk limit at offset `off` is `l off` (`binarylimit` lowered by
another client in mid-download, a short read from a network mount); offsets strictly increase, so
each is asked once -/
def chunkAtV (pic : Bytes) (mime : Option Bytes) (l : Nat → Nat) (off : Nat) : Decoded :=
  .ok (some (pic.length, mime, (pic.drop off).take (l off)))

theorem take_append_chunk (pic : Bytes) (n l : Nat) :
    pic.take n ++ (pic.drop n).take l = pic.take (min (n + l) pic.length) := by
  rw [← List.take_add, ← List.take_eq_take_min]

theorem artLoop_take (emb : Bool) (pic : Bytes) (mime : Option Bytes) (n : Nat) :
    artLoop emb pic.length mime (pic.take n) =
      if n < pic.length then .request emb n (.more emb pic.length mime (pic.take n))
      else .done (.art (some (pic, mime))) := by
  by_cases hlt : n < pic.length
  · simp [artLoop, List.length_take_of_le (Nat.le_of_lt hlt), hlt]
  · simp [artLoop, hlt, List.take_of_length_le (Nat.le_of_not_lt hlt)]

/-- The chunk loop, from `n` bytes already received, against any limits `l off ≥ 1`: the whole picture
comes back, and the log stays at the same command at strictly increasing offsets in `[n, size)`.
`mime` is what the loop carries from the first chunk and returns; `mime'` is what the later replies
claim, which the loop ignores. -/
theorem loop_v (ask : Bool → Nat → Decoded) (emb : Bool) (pic : Bytes) (mime mime' : Option Bytes) (l : Nat → Nat)
    (hl : ∀ off, 1 ≤ l off) (hask : ∀ off, ask emb off = chunkAtV pic mime' l off) :
    ∀ (fuel n : Nat), pic.length - n < fuel →
      (artRun ask fuel (artLoop emb pic.length mime (pic.take n))).1 = some (.art (some (pic, mime))) ∧
      (∀ eo ∈ (artRun ask fuel (artLoop emb pic.length mime (pic.take n))).2,
        eo.1 = emb ∧ n ≤ eo.2 ∧ eo.2 < pic.length) ∧
      ((artRun ask fuel (artLoop emb pic.length mime (pic.take n))).2.map (·.2)).Pairwise (· < ·) := by
  intro fuel
  induction fuel with
  | zero => intro n hf; exact absurd hf (Nat.not_lt_zero _)
  | succ f ih =>
    intro n hf
    rw [artLoop_take]
    by_cases hlt : n < pic.length
    · -- one more chunk: `m` bytes received, `n < m`, and the rest of the log lies in `[m, size)`
      have hnm : n < min (n + l n) pic.length := Nat.lt_min.mpr ⟨Nat.lt_add_of_pos_right (hl n), hlt⟩
      obtain ⟨hres, hlog, hinc⟩ := ih (min (n + l n) pic.length)
        (Nat.lt_of_lt_of_le (Nat.sub_lt_sub_left hlt hnm) (Nat.le_of_lt_succ hf))
      have hlater (eo : Bool × Nat) (heo : eo ∈ _) : n < eo.2 := Nat.lt_of_lt_of_le hnm (hlog eo heo).2.1
      simp only [hlt, if_true, artRun, hask, chunkAtV, artNext, take_append_chunk]
      exact ⟨hres,
        List.forall_mem_cons.mpr ⟨⟨rfl, Nat.le_refl _, hlt⟩, fun eo heo =>
          ⟨(hlog eo heo).1, Nat.le_of_lt (hlater eo heo), (hlog eo heo).2.2⟩⟩,
        List.pairwise_cons.mpr ⟨List.forall_mem_map.mpr hlater, hinc⟩⟩
    · rw [if_neg hlt]
      simp [artRun]

theorem loop_exact_v (ask : Bool → Nat → Decoded) (emb : Bool) (pic : Bytes) (mime mime' : Option Bytes) (l : Nat → Nat)
    (hl : ∀ off, 1 ≤ l off) (hask : ∀ off, ask emb off = chunkAtV pic mime' l off) :
    ∀ (k n fuel : Nat), pic.length - n ≤ k → n ≤ pic.length → k < fuel →
      (artRun ask fuel (artLoop emb pic.length mime (pic.take n))).1 = some (.art (some (pic, mime))) ∧
      ∀ eo ∈ (artRun ask fuel (artLoop emb pic.length mime (pic.take n))).2,
        eo.1 = emb ∧ n ≤ eo.2 ∧ eo.2 < pic.length := fun _ n fuel hk _ hf =>
  have h := loop_v ask emb pic mime mime' l hl hask fuel n (Nat.lt_of_le_of_lt hk hf)
  ⟨h.1, h.2.1⟩

theorem loop_increasing_v (ask : Bool → Nat → Decoded) (emb : Bool) (pic : Bytes) (mime mime' : Option Bytes) (l : Nat → Nat)
    (hl : ∀ off, 1 ≤ l off) (hask : ∀ off, ask emb off = chunkAtV pic mime' l off) :
    ∀ (k n fuel : Nat), pic.length - n ≤ k → n ≤ pic.length → k < fuel →
      ((artRun ask fuel (artLoop emb pic.length mime (pic.take n))).2.map (·.2)).Pairwise (· < ·) :=
  fun _ n fuel hk _ hf => (loop_v ask emb pic mime mime' l hl hask fuel n (Nat.lt_of_le_of_lt hk hf)).2.2

theorem artNext_first_chunk (pic : Bytes) (mime : Option Bytes) (l : Nat → Nat) :
    artNext .first (chunkAtV pic mime l 0) = artLoop true pic.length mime (pic.take (min (l 0) pic.length)) ∧
    artNext .fallback (chunkAtV pic mime l 0) = artLoop false pic.length none (pic.take (min (l 0) pic.length)) := by
  simp [chunkAtV, artNext, ← List.take_eq_take_min]

/-- **embedded picture present**: exact bytes and MIME type, requests only to `readpicture`. Fuel: one step
for the first request, at most `pic.length` for the chunks (each brings a byte or more), one to see `done`. -/
theorem C17_exact_embedded_varying (ask : Bool → Nat → Decoded) (pic : Bytes) (mime : Option Bytes) (l : Nat → Nat)
    (hl : ∀ off, 1 ≤ l off) (hask : ∀ off, ask true off = chunkAtV pic mime l off) :
    (artRun ask (pic.length + 2) start).1 = some (.art (some (pic, mime))) ∧
    (∀ eo ∈ (artRun ask (pic.length + 2) start).2, eo.1 = true) ∧
    ((artRun ask (pic.length + 2) start).2.map (·.2)).Pairwise (· < ·) := by
  obtain ⟨hres, hlog, hinc⟩ :=
    loop_v ask true pic mime mime l hl hask (pic.length + 1) (min (l 0) pic.length) (Nat.lt_succ_of_le (Nat.sub_le ..))
  simp only [start, artRun, hask, (artNext_first_chunk pic mime l).1]
  refine ⟨hres, List.forall_mem_cons.mpr ⟨rfl, fun eo heo => (hlog eo heo).1⟩,
    List.pairwise_cons.mpr ⟨List.forall_mem_map.mpr fun eo heo => ?_, hinc⟩⟩
  -- a later request exists only if the picture is not empty, and then the first chunk was not
  obtain ⟨-, h1, h2⟩ := hlog eo heo
  exact Nat.lt_of_lt_of_le (Nat.lt_min.mpr ⟨hl 0, Nat.zero_lt_of_lt h2⟩) h1

/-- **cover file after fall-back**: exact bytes, no MIME type (one more step of fuel: the `readpicture`
request that falls back) -/
theorem C17_exact_file_varying (ask : Bool → Nat → Decoded) (pic : Bytes) (mime' : Option Bytes) (l : Nat → Nat)
    (hl : ∀ off, 1 ≤ l off) (hfb : artNext .first (ask true 0) = .request false 0 .fallback)
    (hask : ∀ off, ask false off = chunkAtV pic mime' l off) :
    (artRun ask (pic.length + 3) start).1 = some (.art (some (pic, none))) := by
  simp only [start, artRun, hfb, hask, (artNext_first_chunk pic mime' l).2]
  exact (loop_v ask false pic none mime' l hl hask (pic.length + 1) _ (Nat.lt_succ_of_le (Nat.sub_le ..))).1

theorem loop_exact (ask : Bool → Nat → Decoded) (emb : Bool) (pic : Bytes) (mime mime' : Option Bytes) (l : Nat)
    (hl : 1 ≤ l) (hask : ∀ off, ask emb off = chunkAt pic mime' l off) :
    ∀ (k n fuel : Nat), pic.length - n ≤ k → n ≤ pic.length → k < fuel →
      (artRun ask fuel (artLoop emb pic.length mime (pic.take n))).1 = some (.art (some (pic, mime))) ∧
      ∀ eo ∈ (artRun ask fuel (artLoop emb pic.length mime (pic.take n))).2,
        eo.1 = emb ∧ n ≤ eo.2 ∧ eo.2 < pic.length :=
  loop_exact_v ask emb pic mime mime' (fun _ => l) (fun _ => hl) hask

theorem loop_increasing (ask : Bool → Nat → Decoded) (emb : Bool) (pic : Bytes) (mime mime' : Option Bytes) (l : Nat)
    (hl : 1 ≤ l) (hask : ∀ off, ask emb off = chunkAt pic mime' l off) :
    ∀ (k n fuel : Nat), pic.length - n ≤ k → n ≤ pic.length → k < fuel →
      ((artRun ask fuel (artLoop emb pic.length mime (pic.take n))).2.map (·.2)).Pairwise (· < ·) :=
  loop_increasing_v ask emb pic mime mime' (fun _ => l) (fun _ => hl) hask

theorem C17_exact_embedded (ask : Bool → Nat → Decoded) (pic : Bytes) (mime : Option Bytes) (l : Nat)
    (hl : 1 ≤ l) (hask : ∀ off, ask true off = chunkAt pic mime l off) :
    (artRun ask (pic.length + 2) start).1 = some (.art (some (pic, mime))) ∧
    (∀ eo ∈ (artRun ask (pic.length + 2) start).2, eo.1 = true) ∧
    ((artRun ask (pic.length + 2) start).2.map (·.2)).Pairwise (· < ·) :=
  C17_exact_embedded_varying ask pic mime (fun _ => l) (fun _ => hl) hask

theorem C17_exact_file (ask : Bool → Nat → Decoded) (pic : Bytes) (mime' : Option Bytes) (l : Nat)
    (hl : 1 ≤ l) (hfb : artNext .first (ask true 0) = .request false 0 .fallback)
    (hask : ∀ off, ask false off = chunkAt pic mime' l off) :
    (artRun ask (pic.length + 3) start).1 = some (.art (some (pic, none))) :=
  C17_exact_file_varying ask pic mime' (fun _ => l) (fun _ => hl) hfb hask

/-- the fall-back happens exactly when `readpicture` yields nothing or is unknown (ACK 5) -/
theorem C17_fallback_iff (d : Decoded) :
    artNext .first d = .request false 0 .fallback ↔
      d = .ok none ∨ ∃ e fs, d = .error (.errorResponse e fs) ∧ e.code = 5 := by
  rcases d with e | _ | ⟨size, mime, data⟩
  · -- an error: only an `ACK` is tested for its code
    cases e <;> simp [artNext]
  · simp [artNext]
  · -- data arrived: the loop goes on with `readpicture` or is done
    have : artLoop true size mime data ≠ .request false 0 .fallback := by
      unfold artLoop
      split <;> simp
    simp [artNext, this]

/-- neither source has data: absence is reported (three steps: the two requests and `done`) -/
theorem C17_none (ask : Bool → Nat → Decoded)
    (hfb : artNext .first (ask true 0) = .request false 0 .fallback) (hfile : ask false 0 = .ok none) :
    artRun ask 3 start = (some (.art none), [(true, 0), (false, 0)]) := by
  simp only [start, artRun, hfb, hfile]
  simp [artNext, artRun]

/-- any other server error is propagated to the caller, at whatever request it occurs -/
theorem C17_error_propagated (ph : ArtPhase) (e : CmdErr)
    (hne : ∀ er fs, e = .errorResponse er fs → ph = .first → er.code ≠ 5) :
    artNext ph (.error e) = .done (.err e) := by
  cases ph with
  | first =>
    cases e with
    | errorResponse er fs => simp [artNext, hne er fs rfl rfl]
    | closed => rfl
    | protocol p => rfl
    | invalidTyped => rfl
  | fallback => rfl
  | more emb ex mime out => rfl

/-- non-vacuity: 20 bytes served as 8 + 3 + 8 + 1 (a short read in the middle) -/
example : artRun (fun _ off => chunkAtV (str "ABCDEFGHIJKLMNOPQRST") none (fun o => if o == 8 then 3 else 8) off) 22 start =
    (some (.art (some (str "ABCDEFGHIJKLMNOPQRST", none))), [(true, 0), (true, 8), (true, 11), (true, 19)]) := by
  rw [str_ofList]
  decide +kernel

/-! ## non-vacuity: 7 bytes in chunks of 3 -/
example : artRun (fun _ off => chunkAt (str "ABCDEFG") (some (str "image/png")) 3 off) 9 start =
    (some (.art (some (str "ABCDEFG", some (str "image/png")))), [(true, 0), (true, 3), (true, 6)]) := by
  decide +kernel

end Mpd.C17
