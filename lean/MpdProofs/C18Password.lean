import MpdProofs.Lemmas.LoopStep
/-!
# C18 (password part) — the password is sent before anything else, idle only after acceptance

On the byte-level task model (`Mpd/Loop.lean`, program points `connecting`, `pwWait`, `spawned`): with a password, the
step that accepts the greeting writes the `password` request alone and waits in `pwWait`, where nothing is written;
`spawned` is entered exactly on a complete reply without error, and everything else ends in `failed` with the
transport dropped. Which error is reported is in `After.pwRejected`, `After.pwBroken` (an ACK gives
`incorrectPassword`, a close unexpected-EOF, garbage invalid-message); the statement keeps `o ≠ ok`.
-/
namespace Mpd.C18
open Mpd.Loop

theorem C18_password_first (s : St) (rf : Bool) (pw v rest : Bytes)
    (hpc : s.pc = .connecting) (hpw : s.password = some pw) (hav : s.avail ≠ [])
    (hg : Parser.greeting (s.buf ++ s.avail) = .ok v rest) (hw : s.werr = none) :
    ∃ s', step s rf = some s' ∧ s'.obs = s.obs ++ [.wrote pw .password] ∧ s'.pc = .pwWait .initial ∧ s'.version = v := by
  have hne : s.avail.isEmpty = false := by cases h : s.avail <;> simp_all
  unfold step
  rw [hpc]
  simp only [hne, Bool.false_eq_true, if_false, hg, hpw, write, hw]
  exact ⟨_, rfl, rfl, rfl, rfl⟩

/-- the live receive future of state `s` (builder σ), polled on the bytes `s` holds, returns `r` -/
def Received (s : St) (σ : Builder.BState) (r : Builder.Response) : Prop :=
  ∃ t : St, t.buf = s.buf ∧ t.avail = s.avail ∧ t.eof = s.eof ∧ t.rerr = s.rerr ∧
    (pollRecv t σ).2 = .ready (.resp r)

theorem C18_pwWait_step (s s' : St) (rf : Bool) (σ : Builder.BState) (hpc : s.pc = .pwWait σ)
    (h : step s rf = some s') :
    (∀ b k, Obs.wrote b k ∉ s'.obs.drop s.obs.length) ∧
    ((∃ σ', s'.pc = .pwWait σ' ∧ s'.obs = s.obs) ∨
     (s'.pc = .spawned ∧ (∃ r, Received s σ r ∧ r.error = none) ∧ s'.obs = s.obs ++ [.connected (.ok s.version)]) ∨
     (s'.pc = .failed ∧ ∃ o, s'.obs = s.obs ++ [.connected o, .transportDropped] ∧ ∀ v, o ≠ .ok v)) := by
  -- each of the three outcomes says what the step logged, and none of it is a write
  suffices h2 : _ by
    refine ⟨?_, h2⟩
    rcases h2 with ⟨_, _, ho⟩ | ⟨_, _, ho⟩ | ⟨_, _, ho, _⟩ <;> rw [ho] <;> simp
  have hc : s.pc ≠ .connecting := by rw [hpc]; simp
  cases step_sound hc h with
  | spawned h' _ => rw [hpc] at h'; cases h'
  | timer d h' _ _ => rw [hpc] at h'; cases h'
  | command σ' h' _ _ => rw [hpc] at h'; cases h'
  | polled σ' buf avail kept rp hr _ hp ha =>
    obtain rfl : σ = σ' := by rw [hpc] at hr; exact Option.some.inj hr
    cases ha with
    | pending σ' _ => exact .inl ⟨σ', by simp [hpc, Pc.setRecv], rfl⟩
    | pwAccepted _ r _ he =>
      exact .inr (.inl ⟨rfl, ⟨r, ⟨{ s with fresh := false }, rfl, rfl, rfl, rfl, by rw [hp]⟩, he⟩, rfl⟩)
    | pwRejected _ r _ _ => exact .inr (.inr ⟨rfl, .incorrectPassword, List.append_assoc _ _ _, nofun⟩)
    | pwBroken _ it _ _ => exact .inr (.inr ⟨rfl, .protocol (verdictErr it), List.append_assoc _ _ _, nofun⟩)
    -- every other path starts from another program point
    | _ => exact Pc.noConfusion (hpc.symm.trans (by assumption : (s.polled buf avail kept).pc = _))

/-- after `do_connect` has failed the task never runs again -/
theorem C18_rejected (s' : St) (rf : Bool) (h : s'.pc = .failed) : step s' rf = none := step_failed s' rf h

/-- the first `idle` is written from `spawned`, i.e. after the verdict (or when no password is used) -/
theorem C18_idle_after_accept (s : St) (rf : Bool) (hpc : s.pc = .spawned) (hw : s.werr = none) :
    step s rf = some { (emit s (.wrote IDLE .idle)) with pc := .idling s.bstash, fresh := true } := by
  unfold step; rw [hpc]; simp [write, hw, emit]

end Mpd.C18
