import Mpd.Command
import MpdSpec.Tokenizer
import MpdProofs.Lemmas.Tok
import MpdProofs.Lemmas.Utf8
/-!
# C07 — user-supplied strings can never add a request line or change list framing

`add_argument` is taken on ARBITRARY rendered bytes `r` (the clause about user-defined `Argument` renderers): it
either appends `' ' :: r`, and then `r` has no LF and no NUL, or leaves the buffer as it was. So every command
value obtainable through the API (`Reachable`) is `shape n rs`: one line whose first word is the validated name.

Assumption: a renderer only appends to the `BytesMut` it is handed.
-/
namespace Mpd.C07
open Mpd.Cmd Spec.Tok Mpd.TokL

/-- `Command::build n` succeeds (and then holds exactly `n`) iff `n` is non-empty, starts with a
letter, consists of letters and `_` only and does not start with `command_list` -/
theorem C07_name (n c : Bytes) :
    build n = .ok c ↔
      c = n ∧ n ≠ [] ∧ (∃ b t, n = b :: t ∧ isAlpha b = true) ∧
      n.all (fun b => isAlpha b || b == USCORE) = true ∧
      startsWith n (str "command_list") = false := by
  rw [build_ok_iff]
  constructor
  · intro ⟨h, hn⟩; exact ⟨h, hn.ne, hn.first, hn.chars, hn.notList⟩
  · intro ⟨h, h1, h2, h3, h4⟩; exact ⟨h, ⟨h1, h2, h3, h4⟩⟩

/-- the empty name, a name with any byte outside MPD's word alphabet `[A-Za-z0-9_]` and a name that would
open or close a command list are rejected -/
theorem C07_name_rejected (n : Bytes)
    (h : n = [] ∨ (∃ b ∈ n, validWordChar b = false) ∨ startsWith n (str "command_list") = true) :
    ∃ e, build n = .error e := by
  cases hb : build n with
  | error e => exact ⟨e, rfl⟩
  | ok c =>
    obtain ⟨_, hn⟩ := (build_ok_iff n c).mp hb
    exfalso
    rcases h with h | ⟨b, hb, hw⟩ | h
    · exact hn.ne h
    · have := (cmdChar_facts b (List.all_eq_true.mp hn.chars b hb)).2
      rw [hw] at this; cases this
    · have := hn.notList
      rw [h] at this; cases this

theorem C07_name_empty : build [] = .error .empty := by decide +kernel

theorem startsWith_append (p s : Bytes) : startsWith (p ++ s) p = true := by
  induction p with
  | nil => cases s <;> rfl
  | cons b bs ih => simp [startsWith, ih]

/-- an accepted name is no command-list keyword, nor anything that begins like one -/
theorem C07_name_not_list (n c : Bytes) (h : build n = .ok c) :
    (∀ s, n ≠ str "command_list" ++ s) ∧ n ≠ str "command_list_begin" ∧
    n ≠ str "command_list_ok_begin" ∧ n ≠ str "command_list_end" := by
  obtain ⟨_, hn⟩ := (build_ok_iff n c).mp h
  have key : ∀ m, startsWith m (str "command_list") = true → n ≠ m := by
    intro m hm e
    subst e
    exact Bool.noConfusion (hn.notList.symm.trans hm)
  have keywords : ∀ m ∈ [str "command_list_begin", str "command_list_ok_begin", str "command_list_end"],
      startsWith m (str "command_list") = true := by
    repeat rw [str_ofList]
    decide +kernel
  exact ⟨fun s => key _ (startsWith_append _ s), key _ (keywords _ (by simp)), key _ (keywords _ (by simp)),
    key _ (keywords _ (by simp))⟩

/-- an accepted name is one word of MPD's alphabet and is read back as itself -/
theorem C07_name_is_word (n c : Bytes) (h : build n = .ok c) :
    n.all validWordChar = true ∧ tokenizeLine n = some (n, []) := by
  obtain ⟨_, hn⟩ := (build_ok_iff n c).mp h
  refine ⟨List.all_eq_true.mpr fun b hb => (cmdChar_facts b (List.all_eq_true.mp hn.chars b hb)).2, ?_⟩
  simpa [params] using tokenizeLine_pieces hn (rs := []) (by simp)

theorem C07_arg_ok (c r c' b : Bytes) (h : addRendered c r = (.ok c', b)) :
    c' = c ++ SPACE :: r ∧ b = c' ∧ LF ∉ r ∧ (0 : UInt8) ∉ r := by
  by_cases hc : Clean r
  · rw [addRendered_clean c r hc] at h
    cases h
    exact ⟨rfl, rfl, hc.1, hc.2⟩
  · obtain ⟨i, hi⟩ := addRendered_unclean c r hc
    rw [hi] at h; cases h

theorem C07_arg_err (c r b : Bytes) (e : CmdErr) (h : addRendered c r = (.error e, b)) :
    b = c ∧ (LF ∈ r ∨ (0 : UInt8) ∈ r) := by
  by_cases hc : Clean r
  · rw [addRendered_clean c r hc] at h; cases h
  · obtain ⟨i, hi⟩ := addRendered_unclean c r hc
    rw [hi] at h
    cases h
    exact ⟨rfl, Decidable.or_iff_not_imp_left.mpr fun h1 => Decidable.not_not.mp fun h2 => hc ⟨h1, h2⟩⟩

/-- whatever a renderer emits: if it contains a line feed the argument is refused and the command buffer is
what it was before the call -/
theorem C07_arg_lf (c r : Bytes) (h : LF ∈ r) : ∃ e, addRendered c r = (.error e, c) := by
  obtain ⟨i, hi⟩ := addRendered_unclean c r (fun hc => hc.1 h)
  exact ⟨_, hi⟩

theorem addRendered_snd (c r : Bytes) :
    (addRendered c r).2 = if Clean r then c ++ SPACE :: r else c := by
  by_cases hc : Clean r
  · simp [addRendered_clean c r hc, hc]
  · obtain ⟨i, hi⟩ := addRendered_unclean c r hc
    simp [hi, hc]

/-- `Command::build`, then any sequence of `add_argument` calls — accepted or rejected, with any
rendered bytes (`(addRendered c r).2` is the buffer after the call in either case) -/
inductive Reachable : Bytes → Prop
  | build {n c : Bytes} : build n = .ok c → Reachable c
  | add {c : Bytes} (r : Bytes) : Reachable c → Reachable (addRendered c r).2

def shape (n : Bytes) (rs : List Bytes) : Bytes := n ++ rs.flatMap fun r => SPACE :: r

theorem shape_eq (n : Bytes) (rs : List Bytes) : C07.shape n rs = n ++ args rs := rfl

theorem Reachable.shape {c : Bytes} (h : Reachable c) :
    ∃ n rs, NameOk n ∧ (∀ r ∈ rs, Clean r) ∧ c = C07.shape n rs := by
  induction h with
  | build hb =>
    obtain ⟨rfl, hn⟩ := (build_ok_iff _ _).mp hb
    exact ⟨_, [], hn, by simp, by simp [C07.shape]⟩
  | add r _ ih =>
    obtain ⟨n, rs, hn, hrs, rfl⟩ := ih
    rw [addRendered_snd]
    by_cases hc : Clean r
    · refine ⟨n, rs ++ [r], hn, ?_, ?_⟩
      · intro x hx
        rcases List.mem_append.mp hx with hx | hx
        · exact hrs x hx
        · simp at hx; subst hx; exact hc
      · simp [hc, C07.shape]
    · exact ⟨n, rs, hn, hrs, by simp [hc]⟩

theorem Reachable.append {c : Bytes} (h : Reachable c) (rs : List Bytes) (hrs : ∀ r ∈ rs, Clean r) :
    Reachable (c ++ rs.flatMap fun r => SPACE :: r) := by
  induction rs generalizing c with
  | nil => simpa using h
  | cons r rs ih =>
    have hc : Clean r := hrs r (by simp)
    have h1 := Reachable.add r h
    rw [addRendered_snd, if_pos hc] at h1
    have := ih h1 fun x hx => hrs x (by simp [hx])
    simpa using this

/-- conversely: `Reachable` is not vacuous, and `shape` is exact -/
theorem Reachable.of_shape {n : Bytes} (hn : NameOk n) (rs : List Bytes) (hrs : ∀ r ∈ rs, Clean r) :
    Reachable (C07.shape n rs) :=
  Reachable.append (Reachable.build ((build_ok_iff n n).mpr ⟨rfl, hn⟩)) rs hrs

/-- **one protocol line**: whatever was tried on a command, its buffer contains no line feed and no NUL;
`Connection::send` therefore writes exactly one LF-terminated line, the buffer -/
theorem C07_oneline {c : Bytes} (h : Reachable c) :
    LF ∉ c ∧ (0 : UInt8) ∉ c ∧ splitLines (sendBytes c) = some [c] := by
  obtain ⟨n, rs, hn, hrs, rfl⟩ := h.shape
  rw [shape_eq]
  obtain ⟨h1, h2⟩ := hn.clean.append (clean_args rs hrs)
  exact ⟨h1, h2, splitLines_one _ h1⟩

/-- the command word MPD reads from a reachable command's line is the name given to `build`: a word that
passed `validate_command_part`, so never one that starts with `command_list` -/
theorem C07_first_word {c : Bytes} (h : Reachable c) :
    ∃ n rest, build n = .ok n ∧ nextWord (cstr (stripRight c)) = some (n, rest) ∧
      startsWith n (str "command_list") = false := by
  obtain ⟨n, rs, hn, hrs, rfl⟩ := h.shape
  rw [shape_eq]
  obtain ⟨r, hr⟩ := nextWord_line hn (args_wsOrEnd rs) (clean_args rs hrs).2
  exact ⟨n, r, (build_ok_iff n n).mpr ⟨rfl, hn⟩, hr, hn.notList⟩

/-- in particular: if MPD accepts the line at all, its command is that name -/
theorem C07_tokenized_word {c : Bytes} (h : Reachable c) (w : Bytes) (as : List Bytes)
    (ht : tokenizeLine c = some (w, as)) :
    build w = .ok w ∧ startsWith w (str "command_list") = false := by
  obtain ⟨n, rest, hb, hw, hl⟩ := C07_first_word h
  simp only [tokenizeLine, hw, Option.map_eq_some_iff, Prod.mk.injEq] at ht
  obtain ⟨_, _, rfl, _⟩ := ht
  exact ⟨hb, hl⟩

def BEGIN_LINE : Bytes := str "command_list_ok_begin"
def END_LINE : Bytes := str "command_list_end"

theorem list_keywords :
    (LIST_BEGIN = BEGIN_LINE ++ [LF] ∧ LF ∉ BEGIN_LINE) ∧ (LIST_END = END_LINE ++ [LF] ∧ LF ∉ END_LINE) := by
  unfold LIST_BEGIN LIST_END BEGIN_LINE END_LINE
  repeat rw [str_ofList]
  decide +kernel

theorem listRender_cons (first : Bytes) (rest : List Bytes) :
    listRender (first :: rest) = renderList first rest := by
  cases rest <;> rfl

theorem splitLines_block (cs : List Bytes) (h : ∀ c ∈ cs, LF ∉ c) :
    splitLines (LIST_BEGIN ++ cs.flatMap (fun c => c ++ [LF]) ++ LIST_END) =
      some (BEGIN_LINE :: cs ++ [END_LINE]) := by
  have : LIST_BEGIN ++ cs.flatMap (fun c => c ++ [LF]) ++ LIST_END =
      (BEGIN_LINE :: cs ++ [END_LINE]).flatMap fun l => l ++ [LF] := by
    simp [list_keywords.1.1, list_keywords.2.1, List.flatMap_append]
  rw [this]
  apply splitLines_lines
  intro l hl
  simp only [List.cons_append, List.mem_cons, List.mem_append, List.not_mem_nil, or_false] at hl
  rcases hl with hl | hl | hl
  · exact hl ▸ list_keywords.1.2
  · exact h l hl
  · exact hl ▸ list_keywords.2.2

theorem splitLines_listRender (cs : List Bytes) (h : ∀ c ∈ cs, LF ∉ c) :
    splitLines (listRender cs) =
      some (if cs.length = 1 then cs else BEGIN_LINE :: cs ++ [END_LINE]) := by
  match cs, h with
  | [c], h => exact splitLines_one c (h c (by simp))
  | [], h => exact splitLines_block [] h
  | a :: b :: t, h => rw [if_neg (by simp)]; exact splitLines_block _ h

/-- **framing**: the byte stream written for a list of reachable commands splits into exactly the bare
command (N = 1) or `command_list_ok_begin`, the N command buffers in order, `command_list_end` (N ≥ 2) -/
theorem C07_list (first : Bytes) (rest : List Bytes)
    (h : ∀ c ∈ first :: rest, Reachable c) :
    splitLines (renderList first rest) =
      some (if rest = [] then [first] else BEGIN_LINE :: (first :: rest) ++ [END_LINE]) := by
  rw [← listRender_cons, splitLines_listRender _ fun c hc => (C07_oneline (h c hc)).1]
  cases rest <;> simp

/-- no line contributed by a command can be read by MPD as a `command_list…` request, so the
begin/end framing written by `render` is the only framing the server sees -/
theorem C07_list_no_framing_inside (cs : List Bytes) (h : ∀ c ∈ cs, Reachable c) :
    ∀ c ∈ cs, ∀ w as, tokenizeLine c = some (w, as) → startsWith w (str "command_list") = false :=
  fun c hc w as ht => (C07_tokenized_word (h c hc) w as ht).2

theorem build_status : build (str "status") = .ok (str "status") := by decide +kernel
example : build (str "status") = .ok (str "status") := build_status
example : build (str "command_list_end") = .error .commandList := by
  rw [str_ofList]
  decide +kernel
example : build (str "command_list_ok_begin") = .error .commandList := by
  rw [str_ofList]
  decide +kernel
example : build (str "a b") = .error (.invalidChar 1) := by decide +kernel
example : build (str "_x") = .error (.invalidChar 0) := by decide +kernel
example : build (str "a\nstatus") = .error (.invalidChar 1) := by decide +kernel

/-- a renderer that tries to smuggle a second request and a list terminator -/
example : addRendered (str "play") (str "1\ncommand_list_end") = (.error (.invalidChar 1), str "play") := by
  repeat rw [str_ofList]
  decide +kernel

/-- rejected, accepted, rejected: the buffer holds the accepted one only -/
example :
    Reachable (addRendered (addRendered (addRendered (str "add") (str "x\ny")).2 (str "\"a b\"")).2 [0]).2 ∧
    (addRendered (addRendered (addRendered (str "add") (str "x\ny")).2 (str "\"a b\"")).2 [0]).2
      = str "add \"a b\"" :=
  ⟨.add _ (.add _ (.add _ (.build (n := str "add") (by decide +kernel)))), by decide +kernel⟩

/-- the hypotheses of `C07_list` on three commands, one with an argument and one after a rejected injection
attempt -/
example : ∀ c ∈ [str "status", str "play 1", str "stop"], Reachable c := by
  have h1 : Reachable (str "status") := .build build_status
  have h2 : Reachable (str "play 1") :=
    (by decide +kernel : (addRendered (str "play") (str "1")).2 = str "play 1") ▸
      Reachable.add (str "1") (.build (n := str "play") (by decide +kernel))
  have h3 : Reachable (str "stop") :=
    (by repeat rw [str_ofList]
        decide +kernel : (addRendered (str "stop") (str "x\ncommand_list_end")).2 = str "stop") ▸
      Reachable.add (str "x\ncommand_list_end") (.build (n := str "stop") (by decide +kernel))
  intro c hc
  simp only [List.mem_cons, List.not_mem_nil, or_false] at hc
  rcases hc with hc | hc | hc
  · exact hc ▸ h1
  · exact hc ▸ h2
  · exact hc ▸ h3

example : splitLines (renderList (str "status") [str "play 1", str "stop"]) =
    some [str "command_list_ok_begin", str "status", str "play 1", str "stop", str "command_list_end"] := by
  unfold renderList LIST_BEGIN LIST_END
  repeat rw [str_ofList]
  decide +kernel

/-! `validate_command_part` iterates `char_indices()`: the bytewise model agrees on every string -/

theorem C07_name_check_is_charwise (cs : List Nat) (h : ∀ c ∈ cs, Utf8.isScalar c = true) :
    validateCommandPart (Utf8.encodeStr cs) = Utf8.validateCommandPartC cs :=
  Utf8.validateCommandPart_encode cs (Utf8.chars_of_scalar cs h)

/-- non-vacuity: `stätus` is refused at byte offset 2, `é` at 0 -/
example : Utf8.validateCommandPartC [115, 116, 228, 116, 117, 115] = .error (.invalidChar 2) ∧
    Utf8.validateCommandPartC [233] = .error (.invalidChar 0) := by decide +kernel

end Mpd.C07
