/-!
# Message-level skeleton of the idle/noidle discipline: client ∥ wires ∥ MPD server

A closed system at the level of whole protocol messages: the client's control skeleton (the program points of
`Mpd/Loop.lean` with the byte-level detail abstracted away), the two FIFO wires, and an MPD server whose idle rules
are transcribed from `MpdSpec/Server.lean`. All interleavings of callers (`enqueue`), client steps, server steps,
server-side changes and the re-idle timer are actions; the theorems quantify over ALL action sequences. `viol` records
that the server read a request while it waited in idle.

The tie between this skeleton and the byte-level task model is NOT a theorem: it is validated per trace by the
correspondence run, whose oracle replays the implementation's own writes through the specification server.
-/
namespace Mpd.Skeleton

abbrev Req := Nat
inductive Line | idle | noidle | req (r : Req) deriving DecidableEq, Repr
inductive Msg | idleReply (chs : List Nat) | reply (r : Req) deriving DecidableEq, Repr
inductive Pc | idling | cancelWait (r : Req) | waiting (r : Req) | waitNext | exited deriving DecidableEq, Repr

structure Sys where
  pc : Pc := .idling
  c2s : List Line := [.idle]
  s2c : List Msg := []
  svIdle : Bool := false
  svPend : List Nat := []
  queue : List Req := []
  events : List Nat := []
  answered : List (Req × Msg) := []
  reported : List Nat := []
  viol : Bool := false
  enq : List Req := []          -- ghost: every request ever issued, in issue order
deriving Repr

inductive Act | enqueue (r : Req) | client | takeCmd | server | change (n : Nat) | tick deriving Repr

def step (s : Sys) : Act → Sys
  | .enqueue r => { s with queue := s.queue ++ [r], enq := s.enq ++ [r] }
  | .change n =>
    if s.svIdle then
      { s with svIdle := false, svPend := [], s2c := s.s2c ++ [.idleReply (s.svPend ++ [n])], reported := s.reported ++ (s.svPend ++ [n]) }
    else { s with svPend := s.svPend ++ [n] }
  | .server =>
    match s.c2s with
    | [] => s
    | .idle :: rest =>
      if s.svPend ≠ [] then { s with c2s := rest, svPend := [], s2c := s.s2c ++ [.idleReply s.svPend], reported := s.reported ++ s.svPend }
      else { s with c2s := rest, svIdle := true }
    | .noidle :: rest =>
      if s.svIdle then { s with c2s := rest, svIdle := false, s2c := s.s2c ++ [.idleReply []] }
      else { s with c2s := rest }
    | .req r :: rest =>
      if s.svIdle then { s with c2s := rest, viol := true }
      else { s with c2s := rest, s2c := s.s2c ++ [.reply r] }
  | .takeCmd =>
    match s.pc, s.queue with
    | .idling, r :: q => { s with pc := .cancelWait r, queue := q, c2s := s.c2s ++ [.noidle] }
    | .waitNext, r :: q => { s with pc := .waiting r, queue := q, c2s := s.c2s ++ [.req r] }
    | _, _ => s
  | .tick =>
    match s.pc with
    | .waitNext => { s with pc := .idling, c2s := s.c2s ++ [.idle] }
    | _ => s
  | .client =>
    match s.pc, s.s2c with
    | .idling, .idleReply chs :: rest => { s with s2c := rest, events := s.events ++ chs, c2s := s.c2s ++ [.idle] }
    | .idling, .reply _ :: rest => { s with s2c := rest, c2s := s.c2s ++ [.idle] } -- (treated as idle reply w/o changes)
    | .cancelWait r, .idleReply chs :: rest => { s with s2c := rest, events := s.events ++ chs, pc := .waiting r, c2s := s.c2s ++ [.req r] }
    | .cancelWait r, .reply _ :: rest => { s with s2c := rest, pc := .waiting r, c2s := s.c2s ++ [.req r] }
    | .waiting r, m :: rest => { s with s2c := rest, answered := s.answered ++ [(r, m)], pc := .waitNext }
    | _, _ => s

/-- the control skeleton: which (pc, c2s, s2c, svIdle) shapes are reachable. Rows are numbered per program point;
`cancelWait` 3 and `waiting` 1 are the noidle race (the server answered `idle` by itself while `noidle` was on its way,
and the stale `noidle` is then read ahead of the request). -/
def Skel (s : Sys) : Prop :=
  s.viol = false ∧
  match s.pc with
  | .idling =>
      (s.c2s = [.idle] ∧ s.s2c = [] ∧ s.svIdle = false) ∨                            -- 1: `idle` on its way
      (s.c2s = [] ∧ s.s2c = [] ∧ s.svIdle = true) ∨                                  -- 2: the server idles
      (s.c2s = [] ∧ (∃ chs, s.s2c = [.idleReply chs]) ∧ s.svIdle = false)           -- 3: changes on their way
  | .cancelWait _ =>
      (s.c2s = [.idle, .noidle] ∧ s.s2c = [] ∧ s.svIdle = false) ∨                   -- 1: neither line read yet
      (s.c2s = [.noidle] ∧ s.s2c = [] ∧ s.svIdle = true) ∨                           -- 2: the server idles
      (s.c2s = [.noidle] ∧ (∃ chs, s.s2c = [.idleReply chs]) ∧ s.svIdle = false) ∨  -- 3: it has answered already
      (s.c2s = [] ∧ (∃ chs, s.s2c = [.idleReply chs]) ∧ s.svIdle = false)           -- 4: the idle reply on its way
  | .waiting r =>
      (s.c2s = [.noidle, .req r] ∧ s.s2c = [] ∧ s.svIdle = false) ∨                  -- 1: a stale `noidle` ahead
      (s.c2s = [.req r] ∧ s.s2c = [] ∧ s.svIdle = false) ∨                           -- 2: the request on its way
      (s.c2s = [] ∧ s.s2c = [.reply r] ∧ s.svIdle = false)                           -- 3: its reply on its way
  | .waitNext => s.c2s = [] ∧ s.s2c = [] ∧ s.svIdle = false
  | .exited => False

def Pairing (s : Sys) : Prop := ∀ p ∈ s.answered, p.2 = .reply p.1

theorem Skel.wires {s : Sys} (h : Skel s) :
    s.s2c.length ≤ 1 ∧ (s.c2s.filter fun l => match l with | .req _ => true | _ => false).length ≤ 1 := by
  obtain ⟨_, hs⟩ := h
  cases hpc : s.pc <;> simp only [hpc] at hs
  · rcases hs with ⟨h1, h2, _⟩ | ⟨h1, h2, _⟩ | ⟨h1, ⟨_, h2⟩, _⟩ <;> simp [h1, h2]
  · rcases hs with ⟨h1, h2, _⟩ | ⟨h1, h2, _⟩ | ⟨h1, ⟨_, h2⟩, _⟩ | ⟨h1, ⟨_, h2⟩, _⟩ <;> simp [h1, h2]
  · rcases hs with ⟨h1, h2, _⟩ | ⟨h1, h2, _⟩ | ⟨h1, h2, _⟩ <;> simp [h1, h2]
  · simp [hs.1, hs.2.1]

/-- A table check: every action maps each listed shape to a listed shape. `enqueue` touches no field that `Skel` reads. -/
theorem skel_step (s : Sys) (a : Act) (h : Skel s) : Skel (step s a) := by
  obtain ⟨hv, hs⟩ := h
  cases a with
  | enqueue r => exact ⟨hv, hs⟩
  | tick =>
    simp only [step]; split
    next hpc => simp only [hpc] at hs; exact ⟨hv, by simp [hs]⟩
    next => exact ⟨hv, hs⟩
  | takeCmd =>
    simp only [step]; split
    next r q hpc _ =>   -- each idling row with `noidle` appended is a cancelWait row
      simp only [hpc] at hs
      refine ⟨hv, ?_⟩
      rcases hs with ⟨h1, h2, h3⟩ | ⟨h1, h2, h3⟩ | ⟨h1, h2, h3⟩ <;> simp [h1, h2, h3]
    next r q hpc _ => simp only [hpc] at hs; exact ⟨hv, by simp [hs]⟩
    next => exact ⟨hv, hs⟩
  | change n =>
    simp only [step]; split
    next hi =>   -- the server was idle: only the two rows with `svIdle = true` apply
      refine ⟨hv, ?_⟩
      cases hpc : s.pc <;> simp only [hpc] at hs <;> simp_all
    next => exact ⟨hv, hs⟩
  | server =>
    -- row by row: the row fixes `c2s` and `svIdle`, hence the branch of `step` (up to `svPend ≠ []`)
    cases hpc : s.pc <;> simp only [hpc] at hs
    · rcases hs with h | h | h <;> obtain ⟨h1, h2, h3⟩ := h <;>
        simp [step, h1, h3] <;> (try split) <;> simp [Skel, hpc, hv, h1, h2, h3]
    · rcases hs with h | h | h | h <;> obtain ⟨h1, h2, h3⟩ := h <;>
        simp [step, h1, h3] <;> (try split) <;> simp [Skel, hpc, hv, h1, h2, h3]
    · rcases hs with h | h | h <;> obtain ⟨h1, h2, h3⟩ := h <;>
        simp [step, h1, h3] <;> (try split) <;> simp [Skel, hpc, hv, h1, h2, h3]
    · obtain ⟨h1, h2, h3⟩ := hs; simp only [step, h1]; simp [Skel, hpc, hv, h1, h2, h3]
  | client =>
    -- branch by branch: the branch fixes `pc` and the head of `s2c`, which leaves one row (or two)
    simp only [step]; split
    case h_6 => exact ⟨hv, hs⟩                                            -- the last branch `| _, _ => s`
    all_goals (rename_i hpc hm; simp only [hpc] at hs; refine ⟨hv, ?_⟩)
    · rcases hs with h | h | h <;> simp [hm] at h <;> simp [h, hpc]       -- idling, idle reply
    · rcases hs with h | h | h <;> simp [hm] at h <;> simp [h, hpc]       -- idling, other reply: no such row
    · rcases hs with h | h | h | h <;> simp [hm] at h <;> simp [h]        -- cancelWait r, idle reply → waiting r
    · rcases hs with h | h | h | h <;> simp [hm] at h <;> simp [h, hpc]   -- cancelWait r, other reply: no such row
    · rcases hs with h | h | h <;> simp [hm] at h <;> simp [h]            -- waiting r → waitNext

/-- The one fact about the skeleton that `Pairing` and `Events` need: when the client waits for the reply to `r`,
whatever is on the server→client wire is exactly that reply and nothing else. -/
theorem waiting_head {s : Sys} {r : Req} {m : Msg} {rest : List Msg}
    (h : Skel s) (hpc : s.pc = .waiting r) (hs : s.s2c = m :: rest) : m = .reply r ∧ rest = [] := by
  obtain ⟨_, h⟩ := h
  simp only [hpc] at h
  rcases h with ⟨_, h, _⟩ | ⟨_, h, _⟩ | ⟨_, h, _⟩ <;> simp [hs] at h <;> exact h

/-- `answered` changes in ONE transition only: the client, waiting for `r`, takes the head of the wire. -/
theorem step_answered (s : Sys) (a : Act) :
    (step s a).answered = s.answered ∨
    ∃ r m rest, s.pc = .waiting r ∧ s.s2c = m :: rest ∧ (step s a).answered = s.answered ++ [(r, m)] := by
  cases a with
  | client =>
    simp only [step]; split
    case h_5 r m rest hpc hs => exact .inr ⟨r, m, rest, hpc, hs, rfl⟩     -- the branch `.waiting r, m :: rest`
    all_goals exact .inl rfl
  | _ =>
    left; simp only [step]; repeat' split
    all_goals rfl

theorem pairing_step (s : Sys) (a : Act) (h : Skel s) (hp : Pairing s) : Pairing (step s a) := by
  unfold Pairing
  rcases step_answered s a with he | ⟨r, m, rest, hpc, hs, he⟩ <;> rw [he]
  · exact hp
  · obtain ⟨rfl, -⟩ := waiting_head h hpc hs
    intro p hp'
    rcases List.mem_append.1 hp' with h | h
    · exact hp p h
    · rw [List.mem_singleton.1 h]

def chsOf : Msg → List Nat
  | .idleReply chs => chs
  | .reply _ => []

def inflight (s : Sys) : List Nat := s.s2c.flatMap chsOf

def Events (s : Sys) : Prop := s.events ++ inflight s = s.reported

/-- `Events` is list algebra on `s2c`, `events`, `reported`; the skeleton is needed in one place only: the message the
waiting client removes from the wire carries no changes (`waiting_head`). -/
theorem events_step (s : Sys) (a : Act) (h : Skel s) (he : Events s) : Events (step s a) := by
  unfold Events inflight at *
  cases a with
  | enqueue r => exact he
  | tick => simp only [step]; split <;> exact he
  | takeCmd => simp only [step]; split <;> exact he
  | change n =>
    simp only [step]; split
    · simp [List.flatMap_append, chsOf, ← he]
    · exact he
  | server =>
    simp only [step]; split
    · exact he
    · split
      · simp [List.flatMap_append, chsOf, ← he]
      · exact he
    · split
      · simp [List.flatMap_append, chsOf, ← he]
      · exact he
    · split
      · exact he
      · simp [List.flatMap_append, chsOf, ← he]
  | client =>
    simp only [step]; split
    next chs rest _ hs => simp [← he, hs, chsOf]
    next _ rest _ hs => simp [← he, hs, chsOf]
    next r chs rest _ hs => simp [← he, hs, chsOf]
    next r _ rest _ hs => simp [← he, hs, chsOf]
    next r m rest hpc hs =>
      obtain ⟨rfl, rfl⟩ := waiting_head h hpc hs
      simp [← he, hs, chsOf]
    next => exact he

def serving : Pc → List Req
  | .cancelWait r => [r]
  | .waiting r => [r]
  | _ => []

/-- **FIFO**: answered ++ being served ++ queued = issued, in issue order -/
def Fifo (s : Sys) : Prop := s.answered.map (·.1) ++ serving s.pc ++ s.queue = s.enq

/-- `Fifo` is inductive on its own (no `Skel`): `enqueue` appends to both sides; otherwise a request only moves from
the head of one of the three segments to the end of the previous one. -/
theorem fifo_step (s : Sys) (a : Act) (hf : Fifo s) : Fifo (step s a) := by
  unfold Fifo at *
  cases a with
  | enqueue r => simp [step, ← hf]
  | change n => simp only [step]; split <;> exact hf
  | server => simp only [step]; split <;> (try split) <;> exact hf
  | takeCmd =>
    simp only [step]; split
    next r q hpc hq => simp [← hf, hpc, hq, serving]
    next r q hpc hq => simp [← hf, hpc, hq, serving]
    next => exact hf
  | tick =>
    simp only [step]; split
    next hpc => simp [← hf, hpc, serving]
    next => exact hf
  | client =>
    simp only [step]; split
    next => exact hf
    next => exact hf
    next r chs rest hpc _ => simp [← hf, hpc, serving]
    next r _ rest hpc _ => simp [← hf, hpc, serving]
    next r m rest hpc _ => simp [← hf, hpc, serving]
    next => exact hf

theorem foldl_inv {P : Sys → Prop} (hstep : ∀ s a, P s → P (step s a)) (as : List Act) (s : Sys)
    (h0 : P s) : P (as.foldl step s) := by
  induction as generalizing s with
  | nil => exact h0
  | cons a as ih => exact ih _ (hstep s a h0)

theorem reach_all (as : List Act) :
    Skel (as.foldl step {}) ∧ Pairing (as.foldl step {}) ∧ Events (as.foldl step {}) ∧ Fifo (as.foldl step {}) :=
  foldl_inv (P := fun s => Skel s ∧ Pairing s ∧ Events s ∧ Fifo s)
    (fun s a ⟨h1, h2, h3, h4⟩ =>
      ⟨skel_step s a h1, pairing_step s a h1 h2, events_step s a h1 h3, fifo_step s a h4⟩)
    as {} ⟨⟨rfl, .inl ⟨rfl, rfl, rfl⟩⟩, nofun, rfl, rfl⟩

theorem reach_inv (as : List Act) : Skel (as.foldl step {}) ∧ Pairing (as.foldl step {}) :=
  ⟨(reach_all as).1, (reach_all as).2.1⟩

/-! non-vacuity: the noidle race (the server answers idle at the moment the client cancels it) -/
example :
    let s := [Act.change 3, .server, .enqueue 7, .takeCmd, .server, .client, .server, .client].foldl step {}
    s.answered = [(7, .reply 7)] ∧ s.events = [3] ∧ s.viol = false := by decide +kernel

end Mpd.Skeleton



