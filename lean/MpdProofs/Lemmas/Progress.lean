import MpdProofs.Lemmas.LoopInv
/-!
Once the read side is dead the task exits. `Dead s`: the stream has ended (`eof`) or the read fault is set; both are
persistent ("faults are final"). With no further input every step from a dead state lowers the measure `μ`, for
either poll order of the `select!`; a suspended task is terminal or waits for the 100 ms timer, whose expiry lowers `μ`
too.
-/
namespace Mpd.Loop
open Mpd.Builder Mpd.Conn

def Dead (s : St) : Prop := s.eof = true ∨ s.rerr.isSome = true

def bytesLeft (s : St) : Nat := 2 * s.avail.length + s.buf.length

def phase (s : St) : Nat :=
  match s.pc with
  | .exited => 0
  | .failed => 0
  | .idling _ => 1
  | .spawned => 2
  | .waitNext d => if s.now ≥ d then 3 else 4
  | .waiting _ _ => 5
  | .cancelWait _ _ => 5
  | .pwWait _ => 6
  | .connecting => 7

/-- Weights: a queued request (8) outweighs every phase (≤ 7) and a byte (16) a request; in `bytesLeft` an unread byte
counts twice, a buffered one once (a poll moves bytes from `avail` to `buf`). The phases fall along the control flow
towards `idling`: `pwWait` > `waiting` = `cancelWait` > `waitNext` (timer running > fired) > `spawned` > `idling`. -/
def μ (s : St) : Nat := 16 * bytesLeft s + 8 * s.queue.length + phase s

/-- a poll on a dead connection is always ready and never gains bytes -/
theorem Poll.dead {s x : St} {σ : BState} {rp : RecvPoll} (h : Poll s σ x rp) (hd : Dead s) :
    (∃ it, rp = .ready it) ∧ bytesLeft x ≤ bytesLeft s ∧
    (∀ r, rp = .ready (.resp r) → bytesLeft x < bytesLeft s) := by
  have len : ∀ {b rest : Bytes} {σ' : BState} {out : Out}, feed σ b = (σ', rest, out) →
      rest.length ≤ b.length ∧ ∀ r, finalItem out = .resp r → rest.length < b.length := by
    intro b rest σ' out hf
    exact ⟨(feed_leaves hf).1, fun r hr => ((feed_leaves hf).2.1 r (finalItem_eq_resp hr)).2⟩
  cases h with
  | buffered hf _ =>
    obtain ⟨h1, h2⟩ := len hf
    exact ⟨⟨_, rfl⟩, Nat.add_le_add_left h1 _, fun r hr => Nat.add_lt_add_left (h2 r (RecvPoll.ready.inj hr)) _⟩
  | fault k hf _ =>
    obtain ⟨h1, _⟩ := len hf
    exact ⟨⟨_, rfl⟩, Nat.add_le_add_left h1 _, fun r hr => by cases hr⟩
  | read _ hf _ =>
    obtain ⟨h1, h2⟩ := len hf
    rw [List.length_append] at h1 h2
    refine ⟨⟨_, rfl⟩, ?_, fun r hr => ?_⟩
    · simp only [bytesLeft, List.length_nil]; omega
    · have := h2 r (RecvPoll.ready.inj hr)
      simp only [bytesLeft, List.length_nil]; omega
  | @eof σ' rest _ hf _ =>
    obtain ⟨h1, _⟩ := len hf
    rw [List.length_append] at h1
    refine ⟨⟨_, rfl⟩, ?_, fun r hr => ?_⟩
    · simp only [bytesLeft, List.length_nil]; omega
    · have := RecvPoll.ready.inj hr
      rcases eofItem_cases σ' rest with h | h <;> rw [h] at this <;> cases this
  | pending hr _ he =>
    rcases hd with hd | hd
    · rw [he] at hd; cases hd
    · rw [hr] at hd; cases hd

theorem kept_dead {s s' : St} (h : Kept s s') (hd : Dead s) : Dead s' := by
  unfold Dead at *; rw [h.eof, h.rerr]; exact hd

theorem kept_bytes {s s' : St} (h : Kept s s') : bytesLeft s' = bytesLeft s := by
  unfold bytesLeft; rw [h.avail, h.buf]

/-- leaving the loop empties the queue and ends in phase 0 -/
theorem μ_exitLoop (s : St) (Q p : Nat) : μ (exitLoop s) ≤ 16 * bytesLeft s + 8 * Q + p := by
  obtain ⟨h1, h2, _⟩ := exitLoop_spec s
  unfold μ phase
  rw [kept_bytes (kept_exitLoop s), h1, h2]
  exact Nat.le_trans (Nat.le_add_right _ _) (Nat.le_add_right _ _)

/-- a write: the program point then waited at has phase at most `p`; a failed write ends the loop -/
theorem μ_writeOr {b : Bytes} {w : WKind} {pc : BState → Pc} {o : Nat → Obs} {x x' : St} {p : Nat}
    (h : WriteOr b w pc o x x') (hp : ∀ y : St, y.pc = pc x.bstash → phase y ≤ p) :
    μ x' ≤ 16 * bytesLeft x + 8 * x.queue.length + p := by
  cases h with
  | ok _ => exact Nat.add_le_add_left (hp _ rfl) _
  | fail k _ => exact μ_exitLoop _ _ _

/-- a request leaves the queue and is written: the 8 it weighed pay for any phase -/
theorem μ_dequeue {b : Bytes} {w : WKind} {pc : BState → Pc} {o : Nat → Obs} {x x' : St} {r : Req} {q : List Req}
    (hq : x.queue = r :: q) (h : WriteOr b w pc o { x with queue := q } x')
    (hp : ∀ y : St, y.pc = pc x.bstash → phase y ≤ 8) (p : Nat) :
    μ x' ≤ 16 * bytesLeft x + 8 * x.queue.length + p := by
  have : μ x' ≤ 16 * bytesLeft x + 8 * q.length + 8 := μ_writeOr (x := { x with queue := q }) h hp
  rw [hq, List.length_cons]
  omega

/-- `afterReply`: `p` bounds the phases it can end in: 1 (`idling`) and, where the timer wait is entered, 4 -/
theorem μ_move {d p : Nat} {x x' : St} (h : Move d x x') (h1 : 1 ≤ p)
    (h4 : x.queue = [] → x.senders ≠ 0 → x.now < d → 4 ≤ p) :
    μ x' ≤ 16 * bytesLeft x + 8 * x.queue.length + p := by
  cases h with
  | serve r q hq hs => exact μ_dequeue hq hs (fun y hy => by simp [phase, hy]) p
  | leave => exact μ_exitLoop _ _ _
  | reidle _ _ _ hi => exact μ_writeOr hi (fun y hy => by simpa [phase, hy] using h1)
  | wait hq hs hlt =>
    refine Nat.add_le_add_left (?_ : (if x.now ≥ d then 3 else 4) ≤ p) _
    rw [if_neg (Nat.not_le_of_lt hlt)]
    exact h4 hq hs hlt

theorem μ_cancel {x x' : St} (h : Cancel x x') : μ x' ≤ 16 * bytesLeft x + 8 * x.queue.length + 0 := by
  cases h with
  | leave => exact μ_exitLoop _ _ _
  | noidle r q hq hn => exact μ_dequeue hq hn (fun y hy => by simp [phase, hy]) 0

/-- the arithmetic of `step_decreases`: `B` bytes left, `Q` queued, phase `P` before the step; the step leaves `B'` bytes
and phase at most `p` -/
theorem μ_decr {m B B' Q p P : Nat} (hm : m ≤ 16 * B' + 8 * Q + p)
    (h : B' ≤ B ∧ p < P ∨ B' < B ∧ p ≤ P) : m < 16 * B + 8 * Q + P := by
  omega

theorem step_decreases (s s' : St) (rf : Bool) (hc : s.pc ≠ .connecting) (hd : Dead s)
    (h : step s rf = some s') : μ s' < μ s ∧ Dead s' := by
  show μ s' < 16 * bytesLeft s + 8 * s.queue.length + phase s ∧ Dead s'
  -- each path: the bound `hm` on `μ s'` with its phase, then `μ_decr` with the phase of the program point left
  cases step_sound hc h with
  | spawned hpc hi =>
    have hm := μ_writeOr (p := 1) hi (fun y hy => by simp [phase, hy])
    exact ⟨μ_decr hm (.inl ⟨Nat.le_refl _, by simp [phase, hpc]⟩), kept_dead (kept_writeOr hi) hd⟩
  | timer d hpc hg hm =>
    have hP : 1 < phase s := by simp only [phase, hpc]; split <;> decide
    -- the timer wait is not entered again: nothing would have been ready, and `step` would not have run
    have hm' := μ_move (p := 1) hm (Nat.le_refl 1) fun hq hs hlt => by
      rcases hg with hg | hg | hg
      · exact absurd hq hg
      · exact absurd hg hs
      · exact absurd hg (Nat.not_le_of_lt hlt)
    exact ⟨μ_decr hm' (.inl ⟨Nat.le_refl _, hP⟩), kept_dead (kept_move hm) hd⟩
  | command σ hpc _ hx =>
    have hm : μ s' ≤ 16 * bytesLeft s + 8 * s.queue.length + 0 := μ_cancel (x := dropFuture s σ) hx
    exact ⟨μ_decr hm (.inl ⟨Nat.le_refl _, by simp [phase, hpc]⟩), kept_dead (kept_cancel hx) hd⟩
  | polled σ buf avail kept rp _ _ hp ha =>
    -- `x`: the state the poll left, dead like `s`, with the queue, the program point and the clock of `s`
    obtain ⟨⟨it, rfl⟩, hb, hlt⟩ := (poll_of_eq hp).dead hd
    have hdx : Dead (s.polled buf avail kept) := hd
    show μ s' < 16 * bytesLeft s + 8 * (s.polled buf avail kept).queue.length + phase (s.polled buf avail kept) ∧ _
    generalize s.polled buf avail kept = x at ha hb hlt hdx
    have hb : bytesLeft x ≤ bytesLeft s := hb
    have hlt : ∀ r, Item.resp r = it → bytesLeft x < bytesLeft s := fun r hr => hlt r (by rw [hr])
    have exit : ∀ (y : St), Kept x y → 0 < phase x →
        μ (exitLoop y) < 16 * bytesLeft s + 8 * x.queue.length + phase x ∧ Dead (exitLoop y) := fun y hk hP =>
      ⟨μ_decr (kept_bytes hk ▸ μ_exitLoop y _ 0) (.inl ⟨hb, hP⟩), kept_dead (kept_trans hk (kept_exitLoop y)) hdx⟩
    cases ha with
    | pwAccepted σ r hpc _ =>
      have hm : μ (emit { x with pc := .spawned } (.connected (.ok x.version))) =
          16 * bytesLeft x + 8 * x.queue.length + 2 := rfl
      exact ⟨μ_decr (Nat.le_of_eq hm) (.inl ⟨hb, by simp [phase, hpc]⟩), hdx⟩
    | pwRejected σ r hpc _ =>
      have hm : μ (failConnect x .incorrectPassword) = 16 * bytesLeft x + 8 * x.queue.length + 0 := rfl
      exact ⟨μ_decr (Nat.le_of_eq hm) (.inl ⟨hb, by simp [phase, hpc]⟩), hdx⟩
    | pwBroken σ it hpc _ =>
      have hm : μ (failConnect x (.protocol (verdictErr it))) = 16 * bytesLeft x + 8 * x.queue.length + 0 := rfl
      exact ⟨μ_decr (Nat.le_of_eq hm) (.inl ⟨hb, by simp [phase, hpc]⟩), hdx⟩
    | idleReply σ r f hpc _ hi =>
      have hk := kept_emitEvents x f
      have hm := μ_writeOr (p := 1) hi (fun y hy => by simp [phase, hy])
      rw [kept_bytes hk, (emitEvents_obs x f).2] at hm
      exact ⟨μ_decr hm (.inr ⟨hlt r rfl, by simp [phase, hpc]⟩), kept_dead (kept_trans hk (kept_writeOr hi)) hdx⟩
    | cancelled rq σ r f hpc _ hs =>
      have hk := kept_emitEvents x f
      have hm := μ_writeOr (p := 5) hs (fun y hy => by simp [phase, hy])
      rw [kept_bytes hk, (emitEvents_obs x f).2] at hm
      exact ⟨μ_decr hm (.inr ⟨hlt r rfl, by simp [phase, hpc]⟩), kept_dead (kept_trans hk (kept_writeOr hs)) hdx⟩
    | reply rq σ r hpc hm =>
      have hm' : μ s' ≤ 16 * bytesLeft x + 8 * x.queue.length + 4 :=
        μ_move (x := emit x _) hm (by decide) (fun _ _ _ => Nat.le_refl 4)
      exact ⟨μ_decr hm' (.inr ⟨hlt r rfl, by simp [phase, hpc]⟩), kept_dead (kept_move hm) hdx⟩
    | replyBroken rq σ it hpc _ _ hm =>
      have hm' : μ s' ≤ 16 * bytesLeft x + 8 * x.queue.length + 4 :=
        μ_move (x := emit x _) hm (by decide) (fun _ _ _ => Nat.le_refl 4)
      exact ⟨μ_decr hm' (.inl ⟨hb, by simp [phase, hpc]⟩), kept_dead (kept_move hm) hdx⟩
    | idleEmpty σ _ hpc _ | idleClean σ hpc => exact exit _ (kept_refl x) (by simp [phase, hpc])
    | idleError σ _ _ hpc _ | idleBroken σ _ hpc _ _ | cancelEmpty _ σ _ hpc _ | cancelBroken _ σ _ hpc _
    | replyClean _ σ hpc => exact exit _ (kept_emit x _) (by simp [phase, hpc])
    | cancelError rq σ r e hpc _ =>
      exact exit _ (kept_trans (kept_emit x _) (kept_emit _ _)) (by simp [phase, hpc])

theorem dead_pollable (s : St) (hd : Dead s) : recvPollable s = true := by
  unfold recvPollable
  rcases hd with h | h <;> simp [h]

theorem blocked_only_on_timer (s : St) (rf : Bool) (hc : s.pc ≠ .connecting) (hd : Dead s)
    (h : step s rf = none) :
    s.pc = .exited ∨ s.pc = .failed ∨ ∃ d, s.pc = .waitNext d ∧ s.now < d ∧ s.queue = [] ∧ s.senders ≠ 0 := by
  have runs : (step s rf).isSome = true → False := fun hs => by rw [h] at hs; cases hs
  cases hpc : s.pc with
  | exited => exact .inl rfl
  | failed => exact .inr (.inl rfl)
  | connecting => exact absurd hpc hc
  -- a dead connection is pollable, so a program point that waits on a receive future is not blocked
  | pwWait σ | idling σ | cancelWait _ σ | waiting _ σ =>
    exact (runs (step_isSome_of_pollable rf (by rw [hpc]; rfl) (dead_pollable s hd))).elim
  | spawned => exact (runs (step_isSome_of_ready rf (.inl hpc))).elim
  | waitNext d =>
    have hg := fun hg => runs (step_isSome_of_ready rf (.inr ⟨d, hpc, hg⟩))
    exact .inr (.inr ⟨d, rfl, Nat.lt_of_not_ge fun h => hg (.inr (.inr h)),
      Classical.byContradiction fun h => hg (.inl h), fun h => hg (.inr (.inl h))⟩)

/-- the 100 ms timer of `waitNext` expires -/
def tick (s : St) (d : Nat) : St := { s with now := d }

theorem tick_decreases (s : St) (d : Nat) (hpc : s.pc = .waitNext d) (hlt : s.now < d) (hd : Dead s) :
    μ (tick s d) < μ s ∧ Dead (tick s d) ∧ (tick s d).pc = s.pc := by
  refine ⟨?_, hd, rfl⟩
  -- phase 4 (the timer has not fired) becomes phase 3; nothing else changes
  have : ¬ s.now ≥ d := Nat.not_le_of_lt hlt
  simp [μ, phase, tick, hpc, bytesLeft, this]

/-- one move of the closed system "task + its timer", no input from the environment: a task step if one is possible
(`rf` = the scheduler's choice), otherwise the timer fires -/
def move (rf : Bool) (s : St) : St :=
  match step s rf with
  | some s' => s'
  | none =>
    match s.pc with
    | .waitNext d => if s.now < d then tick s d else s
    | _ => s

/-- `sched` = the scheduler's policy for the `select!` poll order; it may depend on the whole state, which includes the
log of everything observed so far -/
def drain (sched : St → Bool) : Nat → St → St
  | 0, s => s
  | n + 1, s => drain sched n (move (sched s) s)


theorem move_spec (rf : Bool) (s : St) (hc : s.pc ≠ .connecting) (hd : Dead s) (hnt : ¬ Terminal s) :
    μ (move rf s) < μ s ∧ Dead (move rf s) ∧ (move rf s).pc ≠ .connecting := by
  unfold move
  cases hs : step s rf with
  | some s' =>
    obtain ⟨h1, h2⟩ := step_decreases s s' rf hc hd hs
    exact ⟨h1, h2, step_ne_connecting s s' rf hc hs⟩
  | none =>
    rcases blocked_only_on_timer s rf hc hd hs with h | h | ⟨d, hpc, hlt, _, _⟩
    · exact absurd (Or.inl h) hnt
    · exact absurd (Or.inr h) hnt
    · simp only [hpc, hlt, if_true]
      obtain ⟨h1, h2, h3⟩ := tick_decreases s d hpc hlt hd
      exact ⟨h1, h2, by rw [h3, hpc]; simp⟩

/-- **bounded progress**: once the read side is dead, the task reaches `exited`/`failed` within `μ s` moves, whatever
the scheduler chooses -/
theorem drain_exits (sched : St → Bool) (s : St) (hc : s.pc ≠ .connecting) (hd : Dead s) :
    ∃ n, n ≤ μ s ∧ Terminal (drain sched n s) := by
  generalize hm : μ s = m
  induction m using Nat.strongRecOn generalizing s with
  | _ m ih =>
    by_cases hnt : Terminal s
    · exact ⟨0, Nat.zero_le _, hnt⟩
    · obtain ⟨h1, h2, h3⟩ := move_spec (sched s) s hc hd hnt
      obtain ⟨n, hn, ht⟩ := ih (μ (move (sched s) s)) (by omega) (move (sched s) s) h3 h2 rfl
      exact ⟨n + 1, by omega, ht⟩

theorem move_post (rf : Bool) (s : St) (hp : Post s) : Post (move rf s) := by
  unfold move
  cases hs : step s rf with
  | some s' => exact step_post s s' rf hp.1 hs
  | none =>
    simp only
    split
    · split
      · rename_i d hpc _
        exact ⟨by simp [tick, hpc, Live], by intro h; simp [tick, hpc] at h⟩
      · exact hp
    · exact hp

theorem drain_post (sched : St → Bool) (n : Nat) (s : St) (hp : Post s) : Post (drain sched n s) := by
  induction n generalizing s with
  | zero => exact hp
  | succ n ih => exact ih _ (move_post _ s hp)

/-- draining loses no request -/
theorem move_accounted (rf : Bool) (s : St) : SameIds (accounted (move rf s)) (accounted s) := by
  unfold move
  cases hs : step s rf with
  | some s' => exact step_accounted s s' rf hs
  | none =>
    simp only
    repeat' split
    all_goals exact sameIds_refl _

theorem drain_accounted (sched : St → Bool) (n : Nat) (s : St) :
    SameIds (accounted (drain sched n s)) (accounted s) := by
  induction n generalizing s with
  | zero => exact sameIds_refl _
  | succ n ih => exact sameIds_trans (ih _) (move_accounted _ s)

/-- **C08, whole drain**: within `μ s` moves the loop has returned, the queue is empty and every request that was queued
or in flight has been answered exactly as often as it was accounted for (i.e. once) -/
theorem dead_connection_drains (sched : St → Bool) (s : St) (hp : Post s) (hd : Dead s) :
    ∃ n, n ≤ μ s ∧ (drain sched n s).pc = .exited ∧ (drain sched n s).queue = [] ∧
      ∀ id, (resolvedIds (drain sched n s).obs).count id = (accounted s).count id := by
  have hc : s.pc ≠ .connecting := by intro h; have := hp.1; rw [h] at this; exact this
  obtain ⟨n, hn, ht⟩ := drain_exits sched s hc hd
  have hpost := drain_post sched n s hp
  have hex : (drain sched n s).pc = .exited := by
    rcases ht with h | h
    · exact h
    · have := hpost.1; rw [h] at this; exact absurd this (by simp [Live])
  refine ⟨n, hn, hex, hpost.2 hex, fun id => ?_⟩
  have := drain_accounted sched n s id
  rw [← this]
  simp [accounted, hex, inFlight, hpost.2 hex]

end Mpd.Loop
