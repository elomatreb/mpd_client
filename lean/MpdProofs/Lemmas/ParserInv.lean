import Mpd.ParserProgress
import MpdProofs.Lemmas.List
/-! `p i = ok v r ↔ …` for the run parsers, from their closed forms (`Mpd/ParserProgress.lean`) and `span_eq_iff`. -/
namespace Mpd.Parser

theorem takeWhile_ok_iff (p : UInt8 → Bool) (i v r : Bytes) :
    takeWhile p i = .ok v r ↔ v.all p = true ∧ i = v ++ r ∧ ∃ b r', r = b :: r' ∧ p b = false := by
  rw [takeWhile_eq]
  constructor
  · intro h
    split at h
    · cases h
    next hne =>
      cases h
      obtain ⟨b, r', hd⟩ := List.exists_cons_of_ne_nil hne
      obtain ⟨h1, h2, h3⟩ := span_eq_iff.mp ⟨rfl, hd⟩
      exact ⟨h1, hd ▸ h2, b, r', hd, h3⟩
  · rintro ⟨hv, rfl, b, r', rfl, hb⟩
    obtain ⟨h1, h2⟩ := span_eq_iff.mpr ⟨hv, rfl, hb⟩
    rw [h1, h2, if_neg (List.cons_ne_nil _ _)]

theorem takeWhile1_ok_iff (p : UInt8 → Bool) (i v r : Bytes) :
    takeWhile1 p i = .ok v r ↔
      v ≠ [] ∧ v.all p = true ∧ i = v ++ r ∧ ∃ b r', r = b :: r' ∧ p b = false := by
  rw [takeWhile1_eq_mapRes, mapRes_ok_iff]
  constructor
  · rintro ⟨a, h, ha⟩
    split at ha
    · cases ha
    · cases ha
      exact ⟨‹_›, (takeWhile_ok_iff ..).mp h⟩
  · rintro ⟨hv, h⟩
    exact ⟨v, (takeWhile_ok_iff ..).mpr h, if_neg hv⟩

end Mpd.Parser
