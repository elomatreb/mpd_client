import MpdProofs.Lemmas.ObsMono
import MpdProofs.Lemmas.CancelSafe
/-!
`Decodes σ bytes rs fin`: decoding `bytes` from builder state `σ` yields the responses `rs` one after the other and
then continues like `fin`.

`run_decodes`: along ANY run after the greeting (any deliveries, any scheduler choices, any enqueue / cancel / clock /
handle-drop events) up to the first poll that ends with something else than a response, the bytes delivered so far
followed by any continuation `q` decode to a list `rs` and then continue as `future s q`: nothing skipped, nothing
decoded twice, whatever a dropped receive future parsed included. `rs` is attributed, in order, to the reply of the
request in flight, to the next events (an idle reply's `changed` lines), or to the password verdict (`Attr`).
-/
namespace Mpd.Loop
open Mpd.Builder Mpd.Conn

def Decodes (σ : BState) (bytes : Bytes) : List Response → BState × Bytes × Out → Prop
  | [], fin => feed σ bytes = fin
  | r :: rs, fin => ∃ rest, feed σ bytes = (.initial, rest, .done r) ∧ Decodes .initial rest rs fin

theorem decodes_snoc (σ : BState) (bytes : Bytes) (rs : List Response) (r : Response) (rest : Bytes)
    (fin : BState × Bytes × Out)
    (h : Decodes σ bytes rs (.initial, rest, .done r)) (hf : feed .initial rest = fin) :
    Decodes σ bytes (rs ++ [r]) fin := by
  induction rs generalizing σ bytes with
  | nil => exact ⟨rest, h, hf⟩
  | cons r0 rs ih =>
    obtain ⟨rest0, h1, h2⟩ := h
    exact ⟨rest0, h1, ih .initial rest0 h2⟩

/-- attribution of the consumed responses (each with its consumer) to what callers and the event stream observed -/
inductive Attr : List (Consumer × Response) → List (Nat × Response) → List Bytes → Prop
  | nil : Attr [] [] []
  | reply {cs resp ev} (id : Nat) (r : Response) :
      Attr cs resp ev → Attr (cs ++ [(.reply id, r)]) (resp ++ [(id, r)]) ev
  | idle {cs resp ev} (r : Response) : Attr cs resp ev → Attr (cs ++ [(.idle, r)]) resp (ev ++ eventsOfReply r)
  | verdict {cs resp ev} (r : Response) : Attr cs resp ev → Attr (cs ++ [(.verdict, r)]) resp ev

/-- a consumed response extends the attribution by the constructor of its consumer: `Delivery` and `Attr` make the same
case distinction, one over the program point, the other over the consumer that `outstanding` gives for it -/
theorem attr_delivery {s s' : St} {r : Response} {c : Consumer} {cs : List (Consumer × Response)}
    (hc : outstanding s.pc = [c]) (hd : Delivery s s' r) (ha : Attr cs (responses s.obs) (eventsOf s.obs)) :
    Attr (cs ++ [(c, r)]) (responses s'.obs) (eventsOf s'.obs) := by
  unfold Delivery at hd
  cases hpc : s.pc <;> rw [hpc] at hc hd <;> cases hc <;> rw [hd.1, hd.2]
  · exact ha.verdict r
  · exact ha.idle r
  · exact ha.idle r
  · exact ha.reply _ r

/-- the invariant: `D` = bytes delivered since the start of the run; `cs` = the responses consumed so far, each with
its consumer -/
def Good (s : St) (D : Bytes) : Prop :=
  ∃ cs : List (Consumer × Response),
    (∀ q, Decodes .initial (D ++ q) (cs.map (·.2)) (future s q)) ∧
    Attr cs (responses s.obs) (eventsOf s.obs) ∧
    -- write discipline: the reply-producing lines written so far are, in order, exactly the consumers of the responses
    -- consumed so far, followed by the one reply the task waits for
    (Terminal s ∨ replyWrites s.obs = cs.map (·.1) ++ outstanding s.pc) ∧
    -- ... and in any case a prefix of them; this says something only once the loop has returned (`Terminal s`)
    (∃ rest, replyWrites s.obs = cs.map (·.1) ++ rest)

/-- the poll of the receive future at `s` ends with end of stream, an I/O error or an invalid message -/
def Broken (s : St) : Prop :=
  ∃ it : Item, it.isResp = false ∧ (pollRecv { s with fresh := false } (σcur s)).2 = .ready it

theorem not_terminal_of_step {s s' : St} {rf : Bool} (h : step s rf = some s') : ¬ Terminal s := by
  intro ht
  rcases ht with ht | ht
  · rw [step_exited s rf ht] at h; cases h
  · rw [step_failed s rf ht] at h; cases h

theorem good_step (s s' : St) (rf : Bool) (D : Bytes) (hc : s.pc ≠ .connecting) (hg : Good s D)
    (h : step s rf = some s') : Good s' D ∨ Broken s := by
  obtain ⟨cs, hd, ha, hwd, hpre⟩ := hg
  obtain ⟨ext, hext⟩ := step_ext s s' rf hc h
  have hrw : replyWrites s'.obs = replyWrites s.obs ++ replyWrites ext := by rw [hext]; simp
  have hwd' : replyWrites s.obs = cs.map (·.1) ++ outstanding s.pc := by
    rcases hwd with ht | hw
    · exact absurd ht (not_terminal_of_step h)
    · exact hw
  cases step_effect s s' rf hc h with
  | silent hf hq hw =>
    left
    refine ⟨cs, fun q => ?_, ?_, ?_, ?_⟩
    · rw [hf q]; exact hd q
    · rw [hq.1, hq.2]; exact ha
    · rcases hw with ht | ⟨Δ, h1, h2⟩
      · exact Or.inl ht
      · right; rw [h1, hwd', h2, List.append_assoc]
    · obtain ⟨rest, hrest⟩ := hpre
      exact ⟨rest ++ replyWrites ext, by rw [hrw, hrest, List.append_assoc]⟩
  | broken it hit hp _ => right; exact ⟨it, hit, hp⟩
  | consumed r hf hσ hdel hw =>
    left
    obtain ⟨⟨c, hc'⟩, hw⟩ := hw
    have key := attr_delivery hc' hdel ha
    have dec : ∀ q, Decodes .initial (D ++ q) ((cs ++ [(c, r)]).map (·.2)) (future s' q) := by
      intro q
      have := hd q
      rw [hf q] at this
      rw [List.map_append]
      refine decodes_snoc _ _ _ r _ _ this ?_
      unfold future
      rw [hσ]
    refine ⟨cs ++ [(c, r)], dec, key, ?_, ?_⟩
    · rcases hw with ht | hw
      · exact Or.inl ht
      · right
        rw [hw, hwd', hc', List.map_append]; simp
    · exact ⟨replyWrites ext, by rw [hrw, hwd', hc', List.map_append]; simp⟩

theorem good_deliver (s : St) (D b : Bytes) (hg : Good s D) : Good { s with avail := s.avail ++ b } (D ++ b) := by
  obtain ⟨rs, hd, ha, hw, hp⟩ := hg
  refine ⟨rs, fun q => ?_, ha, hw, hp⟩
  have := hd (b ++ q)
  simpa [future, resid, σcur, List.append_assoc] using this

/-- anything else the environment does (enqueue, cancel, clock, handle drops, faults appearing). An over-approximation:
`fresh`, `password` and `version` are left to it as well, so whether the receive future is pollable is the
environment's choice in every run theorem. -/
def EnvSame (s s' : St) : Prop :=
  s'.pc = s.pc ∧ s'.bstash = s.bstash ∧ s'.buf = s.buf ∧ s'.avail = s.avail ∧ s'.obs = s.obs

theorem good_env (s s' : St) (D : Bytes) (he : EnvSame s s') (hg : Good s D) : Good s' D := by
  obtain ⟨rs, hd, ha, hw, hp⟩ := hg
  obtain ⟨e1, e2, e3, e4, e5⟩ := he
  refine ⟨rs, fun q => ?_, by rw [e5]; exact ha, by unfold Terminal at *; rw [e5, e1]; exact hw, by rw [e5]; exact hp⟩
  have : future s' q = future s q := by simp [future, resid, σcur, e1, e2, e3, e4]
  rw [this]; exact hd q

/-- runs of the task from `s0`: deliveries, task steps that are not `Broken`, anything else the environment does; indexed
by the bytes delivered since `s0` -/
inductive Run (s0 : St) : St → Bytes → Prop
  | start : Run s0 s0 []
  | deliver {s D} (b : Bytes) : Run s0 s D → Run s0 { s with avail := s.avail ++ b } (D ++ b)
  | env {s D} (s' : St) : Run s0 s D → EnvSame s s' → Run s0 s' D
  | task {s D} (s' : St) (rf : Bool) : Run s0 s D → step s rf = some s' → ¬ Broken s → Run s0 s' D

/-- the state right after the greeting -/
def AfterGreeting (s0 : St) : Prop :=
  s0.pc ≠ .connecting ∧ resid s0 = (.initial, []) ∧ responses s0.obs = [] ∧ eventsOf s0.obs = [] ∧
  replyWrites s0.obs = outstanding s0.pc

theorem good_start (s0 : St) (h : AfterGreeting s0) : Good s0 [] := by
  obtain ⟨_, h2, h3, h4, h5⟩ := h
  refine ⟨[], fun q => ?_, by rw [h3, h4]; exact .nil, Or.inr (by simp [h5]), ⟨replyWrites s0.obs, by simp⟩⟩
  simp [Decodes, future, h2]

/-- **every run decodes the delivered stream in order, exactly once, and attributes every response** -/
theorem run_decodes (s0 s : St) (D : Bytes) (h0 : AfterGreeting s0) (hr : Run s0 s D) :
    s.pc ≠ .connecting ∧ Good s D := by
  induction hr with
  | start => exact ⟨h0.1, good_start s0 h0⟩
  | deliver b _ ih => exact ⟨ih.1, good_deliver _ _ b ih.2⟩
  | env s' _ he ih => exact ⟨by rw [he.1]; exact ih.1, good_env _ s' _ he ih.2⟩
  | task s' rf _ hs hnb ih =>
    refine ⟨step_ne_connecting _ s' rf ih.1 hs, ?_⟩
    cases good_step _ s' rf _ ih.1 ih.2 hs with
    | inl hg => exact hg
    | inr hb => exact absurd hb hnb

/-- the two states in which the task starts after the greeting: no password, or the password written -/
theorem afterGreeting_spawned (v : Bytes) : AfterGreeting { pc := .spawned, obs := [.connected (.ok v)] } :=
  ⟨nofun, rfl, rfl, rfl, rfl⟩

theorem afterGreeting_pwWait (pw : Bytes) :
    AfterGreeting { pc := .pwWait .initial, fresh := true, obs := [.wrote pw .password] } :=
  ⟨nofun, rfl, rfl, rfl, rfl⟩

example : AfterGreeting { pc := .spawned, obs := [.connected (.ok (str "0.23.5"))] } := afterGreeting_spawned _
example : AfterGreeting { pc := .pwWait .initial, fresh := true, obs := [.wrote (str "password x\n") .password] } :=
  afterGreeting_pwWait _

/-- **one outstanding**: the task never writes a line that provokes a reply while the reply to an earlier one has not
been consumed -/
theorem one_outstanding (s0 s : St) (D : Bytes) (h0 : AfterGreeting s0) (hr : Run s0 s D) :
    Terminal s ∨ ∃ cs : List (Consumer × Response),
      (∀ q, Decodes .initial (D ++ q) (cs.map (·.2)) (future s q)) ∧
      replyWrites s.obs = cs.map (·.1) ++ outstanding s.pc ∧ (outstanding s.pc).length ≤ 1 := by
  obtain ⟨cs, hd, _, hw, _⟩ := (run_decodes s0 s D h0 hr).2
  rcases hw with ht | hw
  · exact Or.inl ht
  · exact Or.inr ⟨cs, hd, hw, by cases s.pc <;> simp [outstanding]⟩

end Mpd.Loop
