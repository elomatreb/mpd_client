import Mpd.AFrame
/-!
The list multimap `AFrame` through the library's `find?` and `eraseP`: what `find` finds, what
`eraseFirst` removes, and `get` as the two together.
-/
namespace Mpd.FrameLemmas

/-- `==` on keys is equality. Stated once for byte strings: finding `LawfulBEq Bytes` anew in every
proof that mentions `beq_iff_eq` is slow. -/
theorem key_beq {a k : Bytes} : (a == k) = true ↔ a = k := beq_iff_eq

theorem eraseFirst_eq_eraseP (k : Bytes) (l : List (Bytes × Bytes)) :
    AFrame.eraseFirst k l = l.eraseP (·.1 == k) := by
  induction l with
  | nil => rfl
  | cons p t ih => by_cases h : p.1 == k <;> simp [AFrame.eraseFirst, h, ih]

theorem eraseFirst_of_not_mem (k : Bytes) (l : List (Bytes × Bytes)) (h : ∀ p ∈ l, p.1 ≠ k) :
    AFrame.eraseFirst k l = l := by
  rw [eraseFirst_eq_eraseP, List.eraseP_of_forall_not fun p hp => mt key_beq.mp (h p hp)]

theorem eraseFirst_first (k v : Bytes) (pre post : List (Bytes × Bytes)) (h : ∀ p ∈ pre, p.1 ≠ k) :
    AFrame.eraseFirst k (pre ++ (k, v) :: post) = pre ++ post := by
  rw [eraseFirst_eq_eraseP, List.eraseP_append_right _ fun p hp => mt key_beq.mp (h p hp),
    List.eraseP_cons_of_pos (a := (k, v)) (p := fun p => p.1 == k) (key_beq.mpr rfl)]

theorem find_eq_some_iff (l : List (Bytes × Bytes)) (k v : Bytes) :
    (l.find? (·.1 == k)).map (·.2) = some v ↔ ∃ pre post, l = pre ++ (k, v) :: post ∧ ∀ p ∈ pre, p.1 ≠ k := by
  have hkey (pre : List (Bytes × Bytes)) : (∀ a ∈ pre, (!(a.1 == k)) = true) ↔ ∀ p ∈ pre, p.1 ≠ k := by
    simp only [Bool.not_eq_true', ← Bool.not_eq_true, key_beq, ne_eq]
  rw [Option.map_eq_some_iff]
  constructor
  · rintro ⟨⟨k', v'⟩, h, rfl⟩
    obtain ⟨hk, pre, post, hl, hpre⟩ := List.find?_eq_some_iff_append.mp h
    obtain rfl : k' = k := key_beq.mp hk
    exact ⟨pre, post, hl, (hkey pre).mp hpre⟩
  · rintro ⟨pre, post, hl, hpre⟩
    exact ⟨(k, v), List.find?_eq_some_iff_append.mpr ⟨key_beq.mpr rfl, pre, post, hl, (hkey pre).mpr hpre⟩, rfl⟩

theorem find_eq_none_iff (l : List (Bytes × Bytes)) (k : Bytes) :
    (l.find? (·.1 == k)).map (·.2) = none ↔ ∀ p ∈ l, p.1 ≠ k := by
  rw [Option.map_eq_none_iff, List.find?_eq_none]
  exact forall₂_congr fun p _ => not_congr key_beq

/-- also when the key is absent: erasing a key that is not there changes nothing -/
theorem AFrame_get_eq (f : AFrame) (k : Bytes) :
    f.get k = (f.find k, { f with fields := AFrame.eraseFirst k f.fields }) := by
  unfold AFrame.get
  cases h : f.find k with
  | some v => rfl
  | none => rw [eraseFirst_of_not_mem k _ ((find_eq_none_iff _ k).mp h)]

end Mpd.FrameLemmas

namespace Mpd.AFrame
open Mpd.FrameLemmas

theorem find_eq (l : List (Bytes × Bytes)) (b : Option Bytes) (k : Bytes) :
    (AFrame.mk l b).find k = (l.find? (·.1 == k)).map (·.2) := rfl

theorem find_eraseFirst_ne (k k' : Bytes) (h : k ≠ k') (l : List (Bytes × Bytes)) :
    ((eraseFirst k' l).find? (·.1 == k)) = (l.find? (·.1 == k)) := by
  cases hk' : (l.find? (·.1 == k')).map (·.2) with
  | none => rw [eraseFirst_of_not_mem k' l ((find_eq_none_iff l k').mp hk')]
  | some v' =>
    obtain ⟨pre, post, rfl, hpre⟩ := (find_eq_some_iff l k' v').mp hk'
    rw [eraseFirst_first k' v' pre post hpre, List.find?_append, List.find?_append,
      List.find?_cons_of_neg (by simpa using Ne.symm h)]

theorem find_get_ne (f : AFrame) (k k' : Bytes) (h : k ≠ k') : (f.get k').2.find k = f.find k := by
  rw [AFrame_get_eq]
  exact congrArg (Option.map (·.2)) (find_eraseFirst_ne k k' h f.fields)

theorem get_fst (f : AFrame) (k : Bytes) : (f.get k).1 = f.find k := by rw [AFrame_get_eq]

theorem get_binary (f : AFrame) (k : Bytes) : (f.get k).2.binary = f.binary := by rw [AFrame_get_eq]

def keys (l : List (Bytes × Bytes)) : List Bytes := l.map (·.1)

theorem find?_none_of_not_mem (k : Bytes) (l : List (Bytes × Bytes)) (h : k ∉ keys l) :
    l.find? (·.1 == k) = none :=
  List.find?_eq_none.mpr fun p hp e => h (List.mem_map.mpr ⟨p, hp, key_beq.mp e⟩)

/-- among lines with pairwise distinct keys, every line is the first with its key -/
theorem find_of_mem {l : List (Bytes × Bytes)} (hd : (keys l).Nodup) (b : Option Bytes) {k v} (h : (k, v) ∈ l) :
    (AFrame.mk l b).find k = some v := by
  obtain ⟨pre, post, rfl⟩ := List.append_of_mem h
  rw [keys, List.map_append, List.map_cons, List.nodup_append] at hd
  exact (find_eq_some_iff _ k v).mpr ⟨pre, post, rfl, fun p hp e =>
    hd.2.2 _ (List.mem_map_of_mem hp) _ (List.mem_cons_self ..) e⟩

theorem find_perm {l₁ l₂ : List (Bytes × Bytes)} (hp : l₁.Perm l₂) (hd : (keys l₁).Nodup)
    (b₁ b₂ : Option Bytes) (k : Bytes) :
    (AFrame.mk l₁ b₁).find k = (AFrame.mk l₂ b₂).find k := by
  cases h : (AFrame.mk l₂ b₂).find k with
  | none => exact (find_eq_none_iff l₁ k).mpr fun p hm => (find_eq_none_iff l₂ k).mp h p (hp.mem_iff.mp hm)
  | some v =>
    obtain ⟨pre, post, rfl, -⟩ := (find_eq_some_iff l₂ k v).mp h
    exact find_of_mem hd b₁ (hp.mem_iff.mpr (List.mem_append_right _ (List.mem_cons_self ..)))

end Mpd.AFrame
