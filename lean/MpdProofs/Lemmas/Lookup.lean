import MpdProofs.Lemmas.Records
import MpdSpec.Records
/-!
Lookup of keys in the lines of a reply (`findKey`, `linesOf`), the relations between a
decoded field and the lines (`Req`, `Opt`, `SongRel`, `Def`), and for each field-extraction
combinator the exact condition under which a program starting with it yields a value
(`runF_p…_ok_iff`). Read left to right these give soundness of a record decoder, right to left
that it decodes what the server prints.
-/
namespace Mpd.C16
open Mpd.Typed Spec

def findKey (k : Bytes) (l : List Line) : Option Bytes := (l.find? (·.1 == k)).map (·.2)

theorem find_mk (l : List Line) (b : Option Bytes) (k : Bytes) : (AFrame.mk l b).find k = findKey k l := rfl

theorem findKey_nil (k) : findKey k [] = none := rfl
theorem findKey_cons_eq (k v l) : findKey k ((k, v) :: l) = some v := by simp [findKey]
theorem findKey_cons_ne (k k' v l) (h : (k' == k) = false) : findKey k ((k', v) :: l) = findKey k l := by
  simp [findKey, h]
theorem findKey_opt_ne (k k' o l) (h : (k' == k) = false) : findKey k (opt k' o ++ l) = findKey k l := by
  cases o with
  | none => rfl
  | some v => exact findKey_cons_ne k k' v l h
theorem findKey_opt_eq (k o l) : findKey k (opt k o ++ l) = o.orElse fun _ => findKey k l := by
  cases o with
  | none => rfl
  | some v => exact findKey_cons_eq k v l

/-- The lines of a reply given as (key, optional value) entries: an absent value prints no line.
With pairwise distinct keys, looking a key up in the printed lines gives the value of its entry,
wherever the entry stands: no key needs to be compared with another. -/
def linesOf (ents : List (Bytes × Option Bytes)) : List Line := ents.flatMap fun e => opt e.1 e.2

theorem keys_linesOf_sublist (ents : List (Bytes × Option Bytes)) :
    (AFrame.keys (linesOf ents)).Sublist (ents.map (·.1)) := by
  induction ents with
  | nil => exact .slnil
  | cons e es ih =>
    obtain ⟨k, o⟩ := e
    cases o with
    | none => exact ih.cons _
    | some v => exact ih.cons_cons _

theorem findKey_linesOf_none {ents : List (Bytes × Option Bytes)} {k} (h : k ∉ ents.map (·.1)) :
    findKey k (linesOf ents) = none := by
  unfold findKey
  rw [AFrame.find?_none_of_not_mem k _ fun hm => h ((keys_linesOf_sublist ents).subset hm)]
  rfl

theorem findKey_linesOf {ents : List (Bytes × Option Bytes)} (hd : (ents.map (·.1)).Nodup) {k o}
    (h : (k, o) ∈ ents) : findKey k (linesOf ents) = o := by
  induction ents with
  | nil => cases h
  | cons e es ih =>
    rw [List.map_cons, List.nodup_cons] at hd
    show findKey k (opt e.1 e.2 ++ linesOf es) = o
    rcases List.mem_cons.mp h with rfl | h
    · rw [findKey_opt_eq, findKey_linesOf_none hd.1]; cases o <;> rfl
    · have : (e.1 == k) = false := beq_false_of_ne fun he => hd.1 (he ▸ List.mem_map_of_mem (f := (·.1)) h)
      rw [findKey_opt_ne _ _ _ _ this, ih hd.2 h]

theorem find_of_perm {l enc : List Line} (hp : l.Perm enc) (hd : (AFrame.keys enc).Nodup) (bin : Option Bytes)
    (k : Bytes) : (AFrame.mk l bin).find k = findKey k enc :=
  (AFrame.find_perm hp.symm hd none bin k).symm.trans (find_mk enc none k)

theorem find_perm_linesOf {l : List Line} {ents} (hp : l.Perm (linesOf ents)) (hd : (ents.map (·.1)).Nodup)
    (bin : Option Bytes) {k o} (h : (k, o) ∈ ents) : (AFrame.mk l bin).find k = o :=
  (find_of_perm hp ((keys_linesOf_sublist ents).nodup hd) bin k).trans (findKey_linesOf hd h)

theorem find_perm_linesOf_none {l : List Line} {ents} (hp : l.Perm (linesOf ents)) (hd : (ents.map (·.1)).Nodup)
    (bin : Option Bytes) {k} (h : k ∉ ents.map (·.1)) : (AFrame.mk l bin).find k = none :=
  (find_of_perm hp ((keys_linesOf_sublist ents).nodup hd) bin k).trans (findKey_linesOf_none h)

theorem find_perm_mem {l enc : List Line} (hp : l.Perm enc) (hd : (AFrame.keys enc).Nodup) (bin : Option Bytes)
    {k v} (h : (k, v) ∈ enc) : (AFrame.mk l bin).find k = some v :=
  AFrame.find_of_mem ((hp.map _).nodup_iff.mpr hd) bin (hp.mem_iff.mpr h)

/-- required field -/
def Req {α} (look : Bytes → Option Bytes) (k : Bytes) (conv : Bytes → Option α) (x : α) : Prop :=
  ∃ v, look k = some v ∧ conv v = some x

/-- optional field: absent ⇔ `none` -/
def Opt {α} (look : Bytes → Option Bytes) (k : Bytes) (conv : Bytes → Option α) (x : Option α) : Prop :=
  match look k with
  | none => x = none
  | some v => ∃ a, conv v = some a ∧ x = some a

/-- position/id pair: absent position ⇔ `none`; present ⇒ both lines are there -/
def SongRel (look : Bytes → Option Bytes) (pk ik : Bytes) (x : Option (Nat × Nat)) : Prop :=
  match look pk with
  | none => x = none
  | some v => ∃ p i, parseUsize v = some p ∧ Req look ik parseU64 i ∧ x = some (p, i)

/-- field with a default: the default exactly when the line is omitted -/
def Def {α} (look : Bytes → Option Bytes) (k : Bytes) (conv : Bytes → Option α) (d x : α) : Prop :=
  match look k with
  | none => x = d
  | some v => conv v = some x

theorem Opt.none_iff {α} {look k} {conv : Bytes → Option α} {x} (h : Opt look k conv x) : x = none ↔ look k = none := by
  unfold Opt at h
  cases hl : look k with
  | none => simp [hl] at h; simp [h]
  | some v => simp [hl] at h; obtain ⟨a, _, rfl⟩ := h; simp

theorem SongRel.none_iff {look pk ik x} (h : SongRel look pk ik x) : x = none ↔ look pk = none := by
  unfold SongRel at h
  cases hl : look pk with
  | none => simp [hl] at h; simp [h]
  | some v => simp [hl] at h; obtain ⟨p, i, _, _, rfl⟩ := h; simp

theorem Opt.getD {α} {look k} {conv : Bytes → Option α} {o} (h : Opt look k conv o) (d : α) :
    Def look k conv d (o.getD d) := by
  unfold Opt at h
  unfold Def
  cases hl : look k with
  | none => simp only [hl] at h ⊢; subst h; rfl
  | some v => simp only [hl] at h ⊢; obtain ⟨a, ha, rfl⟩ := h; exact ha

theorem Def.exists_opt {α} {look k} {conv : Bytes → Option α} {d x} (h : Def look k conv d x) :
    ∃ o, Opt look k conv o ∧ x = o.getD d := by
  unfold Def at h
  unfold Opt
  cases hl : look k with
  | none => simp only [hl] at h ⊢; exact ⟨none, rfl, h⟩
  | some v => simp only [hl] at h ⊢; exact ⟨some x, ⟨x, h, rfl⟩, rfl⟩

/-! What the printed form of an abstract value gives: `o` is the abstract value, `render` how the
server prints it, `g` its view as a decoded value. -/

theorem Opt.of_encv {α γ} {look k} {conv : Bytes → Option α} {o : Option γ} {render : γ → Bytes} {g : γ → α}
    (h : look k = o.map render) (hc : ∀ a, o = some a → conv (render a) = some (g a)) : Opt look k conv (o.map g) := by
  unfold Opt
  rw [h]
  cases o with
  | none => rfl
  | some a => exact ⟨g a, hc a rfl, rfl⟩

theorem Opt.of_enc {α} {look k} {conv : Bytes → Option α} {o : Option α} {render : α → Bytes}
    (h : look k = o.map render) (hc : ∀ a, o = some a → conv (render a) = some a) : Opt look k conv o := by
  simpa using Opt.of_encv (g := id) h hc

theorem SongRel.of_enc {look pk ik} {o : Option (Nat × Nat)} {render : Nat → Bytes}
    (hp : look pk = o.map (render ·.1)) (hi : look ik = o.map (render ·.2))
    (hcp : ∀ a, o = some a → parseUsize (render a.1) = some a.1)
    (hci : ∀ a, o = some a → parseU64 (render a.2) = some a.2) : SongRel look pk ik o := by
  unfold SongRel
  rw [hp]
  cases o with
  | none => rfl
  | some a => exact ⟨a.1, a.2, hcp a rfl, ⟨_, hi, hci a rfl⟩, rfl⟩

theorem runF_pValue_ok_iff {α β} {conv : Bytes → Option α} {k} {c : α → Prog β} {look} {s} :
    (pValue conv k c).runF look = .ok s ↔ ∃ a, Req look k conv a ∧ (c a).runF look = .ok s := by
  rw [runF_pValue]
  unfold Req
  cases look k with
  | none => simp
  | some v => cases hc : conv v <;> simp [hc]

theorem runF_pValue_ret_ok_iff {α} {conv : Bytes → Option α} {k} {look} {s : α} :
    (pValue conv k fun a => .ret (.ok a)).runF look = .ok s ↔ Req look k conv s := by
  simp only [runF_pValue_ok_iff, runF_ret, Outcome.ok.injEq, exists_eq_right]

theorem runF_pOptional_ok_iff {α β} {conv : Bytes → Option α} {k} {c : Option α → Prog β} {look} {s} :
    (pOptional conv k c).runF look = .ok s ↔ ∃ o, Opt look k conv o ∧ (c o).runF look = .ok s := by
  rw [runF_pOptional]
  unfold Opt
  cases look k with
  | none => simp
  | some v => cases hc : conv v <;> simp [hc]

theorem runF_pSongIdentifier_ok_iff {β} {pk ik} {c : Option (Nat × Nat) → Prog β} {look} {s} :
    (pSongIdentifier pk ik c).runF look = .ok s ↔ ∃ o, SongRel look pk ik o ∧ (c o).runF look = .ok s := by
  unfold pSongIdentifier
  rw [runF_pOptional_ok_iff]
  unfold SongRel Opt
  cases look pk with
  | none => simp
  | some v =>
    constructor
    · rintro ⟨_, ⟨p, hp, rfl⟩, h⟩
      obtain ⟨i, hi, h⟩ := runF_pValue_ok_iff.mp h
      exact ⟨_, ⟨p, i, hp, hi, rfl⟩, h⟩
    · rintro ⟨_, ⟨p, i, hp, hi, rfl⟩, h⟩
      exact ⟨_, ⟨p, hp, rfl⟩, runF_pValue_ok_iff.mpr ⟨i, hi, h⟩⟩

end Mpd.C16
