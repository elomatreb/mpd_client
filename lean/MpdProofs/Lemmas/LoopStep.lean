import MpdProofs.Lemmas.Loop
import MpdProofs.Lemmas.Conn
/-!
The run loop's code, path by path. `pollRecv` and `step` are nested case analyses; they are taken apart here once
into relations (`Poll`, `WriteOr` / `Move` / `Cancel`, `Step` / `After`, `Connect`), and every invariant of the loop is
proved by `cases` on these. `Step` is the direction "a step taken is one of these paths"; it does not say that a step
IS taken (at the program points that poll, that is `step_isSome_of_pollable`).
-/
namespace Mpd.Loop
open Mpd.Builder Mpd.Conn

/-- The outcomes of `pollRecv s σ`. The bytes already buffered are parsed first; only if they are not enough is the
transport looked at, and then everything available is read: by `feed_pending_append` the second parse is a parse of
`s.buf ++ s.avail` from the builder state the future started with. -/
inductive Poll (s : St) (σ : BState) : St → RecvPoll → Prop
  | buffered {σ' : BState} {rest : Bytes} {out : Out} : feed σ s.buf = (σ', rest, out) → out ≠ .pending →
      Poll s σ { s with buf := rest, bstash := σ' } (.ready (finalItem out))
  | fault {σ' : BState} {rest : Bytes} (k : Nat) : feed σ s.buf = (σ', rest, .pending) → s.rerr = some k →
      Poll s σ { s with buf := rest, bstash := σ' } (.ready (.io k))
  | read {σ' : BState} {rest : Bytes} {out : Out} : s.rerr = none →
      feed σ (s.buf ++ s.avail) = (σ', rest, out) → out ≠ .pending →
      Poll s σ { s with buf := rest, avail := [], bstash := σ' } (.ready (finalItem out))
  | eof {σ' : BState} {rest : Bytes} : s.rerr = none → feed σ (s.buf ++ s.avail) = (σ', rest, .pending) →
      s.eof = true → Poll s σ { s with buf := rest, avail := [], bstash := σ' } (.ready (eofItem σ' rest))
  | pending {σ' : BState} {rest : Bytes} : s.rerr = none → feed σ (s.buf ++ s.avail) = (σ', rest, .pending) →
      s.eof = false → Poll s σ { s with buf := rest, avail := [] } (.pending σ')

theorem pollRecv_poll (s : St) (σ : BState) : Poll s σ (pollRecv s σ).1 (pollRecv s σ).2 := by
  -- with `s` taken apart the record updates compute, and `avail = []` can be substituted
  rcases s with ⟨pc, fresh, password, version, buf, bstash, avail, eof, rerr, werr, queue, senders, now, obs⟩
  unfold pollRecv
  simp only
  rcases hf : feed σ buf with ⟨σ1, rest1, out⟩
  cases out with
  | done r => exact .buffered (out := .done r) hf (by simp)
  | invalid => exact .buffered (out := .invalid) hf (by simp)
  | panic => exact .buffered (out := .panic) hf (by simp)
  | pending =>
    simp only
    cases rerr with
    | some k => exact .fault k hf rfl
    | none =>
      have h2 : feed σ (buf ++ avail) = feed σ1 (rest1 ++ avail) := by
        rw [feed_pending_append σ buf avail (by rw [hf]), hf]
      cases avail with
      | nil =>
        rw [List.append_nil, List.append_nil, feed_pending_idem hf] at h2
        cases eof with
        | true => exact .eof rfl (by simpa using h2) rfl
        | false => exact .pending rfl (by simpa using h2) rfl
      | cons a as =>
        simp only [List.isEmpty_cons, Bool.false_eq_true, if_false]
        rcases hf2 : feed σ1 (rest1 ++ a :: as) with ⟨σ2, rest2, out2⟩
        rw [hf2] at h2
        cases out2 with
        | done r => exact .read (out := .done r) rfl h2 (by simp)
        | invalid => exact .read (out := .invalid) rfl h2 (by simp)
        | panic => exact .read (out := .panic) rfl h2 (by simp)
        | pending =>
          simp only
          cases eof with
          | true => exact .eof rfl h2 rfl
          | false => exact .pending rfl h2 rfl

theorem poll_of_eq {s x : St} {σ : BState} {rp : RecvPoll} (h : pollRecv s σ = (x, rp)) : Poll s σ x rp := by
  have := pollRecv_poll s σ
  rwa [h] at this

theorem Poll.frame {s x : St} {σ : BState} {rp : RecvPoll} (h : Poll s σ x rp) :
    ∃ buf avail bstash, x = { s with buf := buf, avail := avail, bstash := bstash } := by
  cases h <;> exact ⟨_, _, _, rfl⟩

theorem poll_frame {s x : St} {σ : BState} {rp : RecvPoll} (h : pollRecv { s with fresh := false } σ = (x, rp)) :
    ∃ buf avail bstash, x = { s with fresh := false, buf := buf, avail := avail, bstash := bstash } :=
  (poll_of_eq h).frame

theorem write_cases (s : St) (b : Bytes) (w : WKind) :
    (s.werr = none ∧ write s b w = (emit s (.wrote b w), none)) ∨
    (∃ k, s.werr = some k ∧ write s b w = (s, some k)) := by
  unfold write
  cases h : s.werr with
  | none => exact .inl ⟨rfl, rfl⟩
  | some k => exact .inr ⟨k, rfl, rfl⟩

/-- `write_all(b)`, then wait at `pc` with a new receive future; when the write fails log `o k` and leave the loop.
Every write of the loop has this shape. -/
inductive WriteOr (b : Bytes) (w : WKind) (pc : BState → Pc) (o : Nat → Obs) (x : St) : St → Prop
  | ok : x.werr = none → WriteOr b w pc o x { emit x (.wrote b w) with pc := pc x.bstash, fresh := true }
  | fail (k : Nat) : x.werr = some k → WriteOr b w pc o x (exitLoop (emit x (o k)))

abbrev Idle := WriteOr IDLE .idle .idling (fun k => .closing (some (.io k)))
abbrev Send (r : Req) := WriteOr r.bytes (.request r.id) (.waiting r) (fun k => .resolved r.id (.protocol (.io k)))
/-- cancel the server's idle on behalf of request `r` -/
abbrev Noidle (r : Req) := WriteOr NOIDLE .noidle (.cancelWait r) (fun k => .resolved r.id (.protocol (.io k)))

/-- `afterReply x d` -/
inductive Move (d : Nat) (x : St) : St → Prop
  | serve (r : Req) (q : List Req) {x' : St} : x.queue = r :: q → Send r { x with queue := q } x' → Move d x x'
  | leave : x.queue = [] → x.senders = 0 → Move d x (exitLoop x)
  | reidle {x' : St} : x.queue = [] → x.senders ≠ 0 → x.now ≥ d → Idle x x' → Move d x x'
  | wait : x.queue = [] → x.senders ≠ 0 → x.now < d → Move d x { x with pc := .waitNext d, fresh := false }

/-- `startCancel x` -/
inductive Cancel (x : St) : St → Prop
  | leave : x.queue = [] → Cancel x (exitLoop x)
  | noidle (r : Req) (q : List Req) {x' : St} : x.queue = r :: q → Noidle r { x with queue := q } x' → Cancel x x'

theorem writeOr_of_write {b : Bytes} {w : WKind} {pc : BState → Pc} {o : Nat → Obs} (x : St) :
    WriteOr b w pc o x
      (match write x b w with
       | (y, none) => { y with pc := pc y.bstash, fresh := true }
       | (y, some k) => exitLoop (emit y (o k))) := by
  rcases write_cases x b w with ⟨hw, h⟩ | ⟨k, hw, h⟩ <;> rw [h]
  · exact .ok hw
  · exact .fail k hw

theorem afterReply_move (x : St) (d : Nat) : Move d x (afterReply x d) := by
  unfold afterReply
  split
  · rename_i r q hq
    exact .serve r q hq (writeOr_of_write _)
  · rename_i hq
    by_cases hs : x.senders = 0
    · rw [if_pos hs]; exact .leave hq hs
    · rw [if_neg hs]
      by_cases hd : x.now ≥ d
      · rw [if_pos hd]; exact .reidle hq hs hd (writeOr_of_write _)
      · rw [if_neg hd]; exact .wait hq hs (Nat.lt_of_not_ge hd)

theorem startCancel_cancel (x : St) : Cancel x (startCancel x) := by
  unfold startCancel
  split
  · rename_i hq; exact .leave hq
  · rename_i r q hq; exact .noidle r q hq (writeOr_of_write _)

/-- what the loop's own code leaves alone: the read side of the connection -/
structure Kept (s s' : St) : Prop where
  buf : s'.buf = s.buf
  avail : s'.avail = s.avail
  eof : s'.eof = s.eof
  rerr : s'.rerr = s.rerr

theorem kept_ctl (s : St) (pc : Pc) (fresh : Bool) (queue : List Req) (obs : List Obs) :
    Kept s { s with pc := pc, fresh := fresh, queue := queue, obs := obs } :=
  ⟨rfl, rfl, rfl, rfl⟩

theorem kept_refl (s : St) : Kept s s := kept_ctl s s.pc s.fresh s.queue s.obs

theorem kept_trans {a b c : St} (h1 : Kept a b) (h2 : Kept b c) : Kept a c :=
  ⟨h2.buf.trans h1.buf, h2.avail.trans h1.avail, h2.eof.trans h1.eof, h2.rerr.trans h1.rerr⟩

theorem kept_emit (s : St) (o : Obs) : Kept s (emit s o) := kept_ctl s s.pc s.fresh s.queue _

theorem kept_exitLoop (s : St) : Kept s (exitLoop s) := by
  rw [exitLoop_eq]
  exact kept_ctl s _ _ _ _

theorem kept_emitEvents (s : St) (f : AFrame) : Kept s (emitEvents s f) := by
  rw [emitEvents_eq]
  exact kept_ctl s s.pc s.fresh s.queue _

theorem kept_writeOr {b : Bytes} {w : WKind} {pc : BState → Pc} {o : Nat → Obs} {x x' : St}
    (h : WriteOr b w pc o x x') : Kept x x' := by
  cases h with
  | ok _ => exact kept_ctl x _ _ x.queue _
  | fail k _ => exact kept_trans (kept_emit x _) (kept_exitLoop _)

theorem kept_move {d : Nat} {x x' : St} (h : Move d x x') : Kept x x' := by
  cases h with
  | serve r q _ hs => exact kept_trans (kept_ctl x x.pc x.fresh q x.obs) (kept_writeOr hs)
  | leave => exact kept_exitLoop x
  | reidle _ _ _ hi => exact kept_writeOr hi
  | wait => exact kept_ctl x _ _ x.queue x.obs

theorem kept_cancel {x x' : St} (h : Cancel x x') : Kept x x' := by
  cases h with
  | leave => exact kept_exitLoop x
  | noidle r q _ hn => exact kept_trans (kept_ctl x x.pc x.fresh q x.obs) (kept_writeOr hn)

/-- the receive future a program point waits on -/
def Pc.recv? : Pc → Option BState
  | .pwWait σ | .idling σ | .cancelWait _ σ | .waiting _ σ => some σ
  | _ => none

def Pc.setRecv : Pc → BState → Pc
  | .pwWait _, σ => .pwWait σ
  | .idling _, σ => .idling σ
  | .cancelWait r _, σ => .cancelWait r σ
  | .waiting r _, σ => .waiting r σ
  | pc, _ => pc

theorem recv_setRecv {pc : Pc} {σ : BState} (σ' : BState) (h : pc.recv? = some σ) : (pc.setRecv σ').recv? = some σ' := by
  cases pc <;> first | rfl | cases h

theorem ne_of_recv {pc : Pc} {σ : BState} (h : pc.recv? = some σ) : pc ≠ .exited ∧ pc ≠ .connecting := by
  cases pc <;> first | exact ⟨Pc.noConfusion, Pc.noConfusion⟩ | cases h

/-- the reply a caller gets when the poll for its response ends with something else -/
def brokenReply : Item → Reply
  | .clean => .closed
  | it => .protocol (itemErr it)

/-- the error `do_connect` returns when the poll for the password verdict ends with something else -/
def verdictErr : Item → ProtoErr
  | .clean => .unexpectedEof
  | it => itemErr it

/-- `s` after a poll of its receive future; every field but `fresh` and these three reduces to `s`'s -/
abbrev St.polled (s : St) (buf avail : Bytes) (kept : BState) : St :=
  { s with fresh := false, buf := buf, avail := avail, bstash := kept }

/-- What the task does with the result `rp` of a poll that left the state `x` (`x.pc` is still the program point that
polled). One constructor per path of the code: program point, guard, resulting state in closed form. -/
inductive After (x : St) : RecvPoll → St → Prop
  /-- the future is kept; in the `select!` only if no command is ready -/
  | pending (σ' : BState) : (∀ σ, x.pc = .idling σ → x.queue = [] ∧ x.senders ≠ 0) →
      After x (.pending σ') { x with pc := x.pc.setRecv σ' }
  /-- the `select!` drops the future for a command right after it has consumed bytes -/
  | pendingCommand (σ σ' : BState) {s' : St} : x.pc = .idling σ → (x.queue ≠ [] ∨ x.senders = 0) →
      Cancel (dropFuture x σ') s' → After x (.pending σ') s'
  | pwAccepted (σ : BState) (r : Response) : x.pc = .pwWait σ → r.error = none →
      After x (.ready (.resp r)) (emit { x with pc := .spawned } (.connected (.ok x.version)))
  | pwRejected (σ : BState) (r : Response) : x.pc = .pwWait σ → r.error.isSome = true →
      After x (.ready (.resp r)) (failConnect x .incorrectPassword)
  | pwBroken (σ : BState) (it : Item) : x.pc = .pwWait σ → it.isResp = false →
      After x (.ready it) (failConnect x (.protocol (verdictErr it)))
  | idleReply (σ : BState) (r : Response) (f : AFrame) {s' : St} : x.pc = .idling σ →
      intoSingleFrame r = some (.ok f) → Idle (emitEvents x f) s' → After x (.ready (.resp r)) s'
  | idleError (σ : BState) (r : Response) (e : Parser.Err) : x.pc = .idling σ →
      intoSingleFrame r = some (.error e) → After x (.ready (.resp r)) (exitLoop (emit x (.closing none)))
  | idleEmpty (σ : BState) (r : Response) : x.pc = .idling σ → intoSingleFrame r = none →
      After x (.ready (.resp r)) (exitLoop x)
  | idleClean (σ : BState) : x.pc = .idling σ → After x (.ready .clean) (exitLoop x)
  | idleBroken (σ : BState) (it : Item) : x.pc = .idling σ → it.isResp = false → it ≠ .clean →
      After x (.ready it) (exitLoop (emit x (.closing (some (itemErr it)))))
  | cancelled (rq : Req) (σ : BState) (r : Response) (f : AFrame) {s' : St} : x.pc = .cancelWait rq σ →
      intoSingleFrame r = some (.ok f) → Send rq (emitEvents x f) s' → After x (.ready (.resp r)) s'
  | cancelError (rq : Req) (σ : BState) (r : Response) (e : Parser.Err) : x.pc = .cancelWait rq σ →
      intoSingleFrame r = some (.error e) →
      After x (.ready (.resp r)) (exitLoop (emit (emit x (.closing none)) (.resolved rq.id .closed)))
  | cancelEmpty (rq : Req) (σ : BState) (r : Response) : x.pc = .cancelWait rq σ → intoSingleFrame r = none →
      After x (.ready (.resp r)) (exitLoop (emit x (.resolved rq.id .closed)))
  | cancelBroken (rq : Req) (σ : BState) (it : Item) : x.pc = .cancelWait rq σ → it.isResp = false →
      After x (.ready it) (exitLoop (emit x (.resolved rq.id (brokenReply it))))
  | reply (rq : Req) (σ : BState) (r : Response) {s' : St} : x.pc = .waiting rq σ →
      Move (x.now + TIMEOUT_MS) (emit x (.resolved rq.id (.response r))) s' → After x (.ready (.resp r)) s'
  | replyClean (rq : Req) (σ : BState) : x.pc = .waiting rq σ →
      After x (.ready .clean) (exitLoop (emit x (.resolved rq.id .closed)))
  | replyBroken (rq : Req) (σ : BState) (it : Item) {s' : St} : x.pc = .waiting rq σ → it.isResp = false →
      it ≠ .clean → Move (x.now + TIMEOUT_MS) (emit x (.resolved rq.id (.protocol (itemErr it)))) s' → After x (.ready it) s'

/-- One step of the task after the greeting. Three paths do not poll; every other step polls the receive future of its
program point once and goes on as `After` says. Of the command branch of the `select!` only "a command is ready" is
kept: that the scheduler polled it first is not. -/
inductive Step (s : St) : St → Prop
  | spawned {s' : St} : s.pc = .spawned → Idle s s' → Step s s'
  | timer (d : Nat) {s' : St} : s.pc = .waitNext d → (s.queue ≠ [] ∨ s.senders = 0 ∨ s.now ≥ d) →
      Move d s s' → Step s s'
  /-- the command branch of the `select!` wins: the future is dropped unpolled -/
  | command (σ : BState) {s' : St} : s.pc = .idling σ → (s.queue ≠ [] ∨ s.senders = 0) →
      Cancel (dropFuture s σ) s' → Step s s'
  | polled (σ : BState) (buf avail : Bytes) (kept : BState) (rp : RecvPoll) {s' : St} : s.pc.recv? = some σ →
      recvPollable s = true → pollRecv { s with fresh := false } σ = (s.polled buf avail kept, rp) →
      After (s.polled buf avail kept) rp s' → Step s s'

theorem After.pending' {x : St} {pc' : Pc} (σ' : BState) (h : x.pc.setRecv σ' = pc')
    (hg : ∀ σ, x.pc = .idling σ → x.queue = [] ∧ x.senders ≠ 0) :
    After x (.pending σ') { x with pc := pc' } := h ▸ .pending σ' hg

/-- "a command is ready" as the `select!` of `step` spells it -/
theorem cmdReady_iff (s : St) : (!s.queue.isEmpty || decide (s.senders = 0)) = true ↔ s.queue ≠ [] ∨ s.senders = 0 := by
  cases s.queue <;> simp

theorem step_sound {s s' : St} {rf : Bool} (hc : s.pc ≠ .connecting) (h : step s rf = some s') : Step s s' := by
  unfold step at h
  obtain ⟨t, ht⟩ : ∃ t : St, t = { s with fresh := false } := ⟨_, rfl⟩
  rw [← ht] at h
  -- the state the poll left is `s.polled ..` by `poll_frame`, so it has the program point, queue and handle count of `s`
  have polled : ∀ {σ x rp}, s.pc.recv? = some σ → recvPollable s = true → pollRecv t σ = (x, rp) →
      (x.pc = s.pc → x.queue = s.queue → x.senders = s.senders → After x rp s') → Step s s' := by
    intro σ x rp hr hpoll hp ha
    rw [ht] at hp
    obtain ⟨buf, avail, kept, rfl⟩ := poll_frame hp
    exact .polled σ buf avail kept rp hr hpoll hp (ha rfl rfl rfl)
  cases hpc : s.pc with
  | connecting => exact absurd hpc hc
  | exited => rw [hpc] at h; cases h
  | failed => rw [hpc] at h; cases h
  | spawned =>
    rw [hpc] at h
    rcases write_cases s IDLE .idle with ⟨hw, e⟩ | ⟨k, hw, e⟩ <;> rw [e] at h <;> cases h
    · exact .spawned hpc (.ok hw)
    · exact .spawned hpc (.fail k hw)
  | waitNext d =>
    rw [hpc] at h
    simp only at h
    split at h
    · rename_i hg
      cases h
      rw [Bool.or_eq_true, cmdReady_iff, decide_eq_true_eq] at hg
      exact .timer d hpc (or_assoc.mp hg) (afterReply_move s d)
    · cases h
  | pwWait σ =>
    rw [hpc] at h
    simp only at h
    split at h
    · cases h
    · rename_i hpoll
      rcases hp : pollRecv t σ with ⟨x, rp⟩
      rw [hp] at h
      refine polled (by rw [hpc]; rfl) (by simpa using hpoll) hp fun hx _ _ => ?_
      rw [hpc] at hx
      cases rp with
      | pending σ' => cases h; exact .pending' σ' (by rw [hx]; rfl) (fun σ h' => by rw [hx] at h'; cases h')
      | ready it =>
        cases it with
        | resp r =>
          simp only at h
          split at h <;> cases h
          · exact .pwRejected σ r hx ‹_›
          · exact .pwAccepted σ r hx (Option.not_isSome_iff_eq_none.mp ‹_›)
        | clean => cases h; exact .pwBroken σ _ hx rfl
        | invalid | unexpectedEof | io _ | panic => cases h; exact .pwBroken σ _ hx rfl
  | waiting rq σ =>
    rw [hpc] at h
    simp only at h
    split at h
    · cases h
    · rename_i hpoll
      rcases hp : pollRecv t σ with ⟨x, rp⟩
      rw [hp] at h
      refine polled (by rw [hpc]; rfl) (by simpa using hpoll) hp fun hx _ _ => ?_
      rw [hpc] at hx
      cases rp with
      | pending σ' => cases h; exact .pending' σ' (by rw [hx]; rfl) (fun σ h' => by rw [hx] at h'; cases h')
      | ready it =>
        cases it with
        | resp r => cases h; exact .reply rq σ r hx (afterReply_move _ _)
        | clean => cases h; exact .replyClean rq σ hx
        | invalid | unexpectedEof | io _ | panic => cases h; exact .replyBroken rq σ _ hx rfl (by simp) (afterReply_move _ _)
  | cancelWait rq σ =>
    rw [hpc] at h
    simp only at h
    split at h
    · cases h
    · rename_i hpoll
      rcases hp : pollRecv t σ with ⟨x, rp⟩
      rw [hp] at h
      refine polled (by rw [hpc]; rfl) (by simpa using hpoll) hp fun hx _ _ => ?_
      rw [hpc] at hx
      cases rp with
      | pending σ' => cases h; exact .pending' σ' (by rw [hx]; rfl) (fun σ h' => by rw [hx] at h'; cases h')
      | ready it =>
        cases it with
        | resp r =>
          simp only at h
          cases hsf : intoSingleFrame r with
          | none => rw [hsf] at h; cases h; exact .cancelEmpty rq σ r hx hsf
          | some ef =>
            rw [hsf] at h
            cases ef with
            | error e => cases h; exact .cancelError rq σ r e hx hsf
            | ok f =>
              simp only at h
              rcases write_cases (emitEvents x f) rq.bytes (.request rq.id) with ⟨hw, e⟩ | ⟨k, hw, e⟩ <;>
                rw [e] at h <;> cases h
              · exact .cancelled rq σ r f hx hsf (.ok hw)
              · exact .cancelled rq σ r f hx hsf (.fail k hw)
        | clean => cases h; exact .cancelBroken rq σ _ hx rfl
        | invalid | unexpectedEof | io _ | panic => cases h; exact .cancelBroken rq σ _ hx rfl
  | idling σ =>
    rw [hpc] at h
    simp only at h
    split at h
    · rename_i hg
      cases h
      rw [Bool.and_eq_true] at hg
      exact .command σ hpc ((cmdReady_iff s).mp hg.1) (startCancel_cancel _)
    · split at h
      · rename_i hpoll
        rcases hp : pollRecv t σ with ⟨x, rp⟩
        rw [hp] at h
        refine polled (by rw [hpc]; rfl) hpoll hp fun hx hq hs => ?_
        rw [hpc] at hx
        cases rp with
        | pending σ' =>
          simp only at h
          split at h <;> cases h
          · rename_i hg
            exact .pendingCommand σ σ' hx (by rw [hq, hs]; exact (cmdReady_iff s).mp hg) (startCancel_cancel _)
          · rename_i hg
            refine .pending' σ' (by rw [hx]; rfl) fun _ _ => ?_
            rw [hq, hs]
            have := mt (cmdReady_iff s).mpr hg
            exact ⟨Classical.byContradiction fun h1 => this (.inl h1), fun h2 => this (.inr h2)⟩
        | ready it =>
          cases it with
          | resp r =>
            cases h
            unfold idleResponse
            cases hsf : intoSingleFrame r with
            | none => exact .idleEmpty σ r hx hsf
            | some ef =>
              cases ef with
              | error e => exact .idleError σ r e hx hsf
              | ok f => exact .idleReply σ r f hx hsf (writeOr_of_write _)
          | clean => cases h; exact .idleClean σ hx
          | invalid | unexpectedEof | io _ | panic => cases h; exact .idleBroken σ _ hx rfl (by simp)
      · cases h

/-- the converse that `Step` does not give by itself: at a program point that waits on a receive future, a pollable
future means the task takes a step -/
theorem step_isSome_of_pollable {s : St} {σ : BState} (rf : Bool) (hr : s.pc.recv? = some σ)
    (hp : recvPollable s = true) : (step s rf).isSome = true := by
  unfold step
  cases hpc : s.pc <;> rw [hpc] at hr <;> cases hr
  all_goals simp only [hp, Bool.not_true, Bool.false_eq_true, if_false, Bool.and_true, if_true]
  all_goals repeat' split
  all_goals rfl

/-- … and at the two program points that do not poll: `spawned` always runs, the timer wait runs when a command, the
closed queue or the deadline is there (`Step.timer`'s guard) -/
theorem step_isSome_of_ready {s : St} (rf : Bool)
    (h : s.pc = .spawned ∨ ∃ d, s.pc = .waitNext d ∧ (s.queue ≠ [] ∨ s.senders = 0 ∨ s.now ≥ d)) :
    (step s rf).isSome = true := by
  unfold step
  rcases h with hpc | ⟨d, hpc, hg⟩ <;> rw [hpc] <;> simp only
  · split <;> rfl
  · rw [if_pos]
    · rfl
    · rw [Bool.or_eq_true, cmdReady_iff, decide_eq_true_eq]
      exact or_assoc.mpr hg

/-- at the end of the stream with nothing left to read (and, in the `select!`, no command ready) the step is taken
and its poll ends with the EOF test -/
theorem step_at_eof (s : St) (rf : Bool) (σ σ1 : BState) (rest : Bytes) (hrecv : s.pc.recv? = some σ)
    (hcmd : ∀ σ', s.pc = .idling σ' → s.queue = [] ∧ s.senders ≠ 0)
    (heof : s.eof = true) (hr : s.rerr = none) (hav : s.avail = [])
    (hf : feed σ s.buf = (σ1, rest, .pending)) :
    ∃ s' buf avail kept, step s rf = some s' ∧
      After (s.polled buf avail kept) (.ready (eofItem σ1 rest)) s' := by
  have hpoll : recvPollable s = true := by simp [recvPollable, heof]
  have hp : (pollRecv { s with fresh := false } σ).2 = .ready (eofItem σ1 rest) := by
    unfold pollRecv
    simp [hf, hr, hav, heof]
  obtain ⟨s', hs⟩ := Option.isSome_iff_exists.mp (step_isSome_of_pollable rf hrecv hpoll)
  have hc : s.pc ≠ .connecting := fun h => by rw [h] at hrecv; cases hrecv
  cases step_sound hc hs with
  | spawned h' _ => rw [h'] at hrecv; cases hrecv
  | timer d h' _ _ => rw [h'] at hrecv; cases hrecv
  | command σ' h' hg _ =>
    obtain ⟨hq, hsn⟩ := hcmd σ' h'
    rcases hg with hg | hg
    · exact absurd hq hg
    · exact absurd hg hsn
  | polled σ' buf avail kept rp hr' _ hp' ha =>
    obtain rfl : σ' = σ := Option.some.inj (hr'.symm.trans hrecv)
    rw [hp'] at hp
    exact ⟨s', buf, avail, kept, hs, hp ▸ ha⟩

/-- The result states of the `connecting` point (`AsyncConnection::connect`, then `do_connect` up to the write of the
password), in closed form. Less than `Step`: there is no program-point premise and the greeting's outcome is not kept
(`o`, `data`, `v` are arbitrary); only the branches on `password` and on the write fault are. -/
inductive Connect (s : St) : St → Prop
  | failed (o : ConnectOutcome) : Connect s (failConnect s o)
  | more (data : Bytes) : Connect s { s with buf := data, avail := [] }
  | greeted (v : Bytes) : s.password = none →
      Connect s (emit { s with buf := [], avail := [], version := v, pc := .spawned } (.connected (.ok v)))
  | pwSent (v pw : Bytes) : s.password = some pw → s.werr = none →
      Connect s { emit { s with buf := [], avail := [], version := v } (.wrote pw .password) with
        pc := .pwWait .initial, fresh := true }
  | pwFailed (v pw : Bytes) (k : Nat) : s.password = some pw → s.werr = some k →
      Connect s (failConnect { s with buf := [], avail := [], version := v } (.protocol (.io k)))

theorem connect_sound {s s' : St} {rf : Bool} (hc : s.pc = .connecting) (h : step s rf = some s') :
    Connect s s' := by
  rcases s with ⟨pc, fresh, password, version, buf, bstash, avail, eof, rerr, werr, queue, senders, now, obs⟩
  simp only at hc
  subst hc
  unfold step at h
  simp only at h
  split at h
  · split at h
    · cases h; exact .failed _
    · split at h <;> cases h
      exact .failed _
  · split at h
    · rename_i v rest _
      cases password with
      | none => simp only at h; cases h; exact .greeted v rfl
      | some pw =>
        cases werr with
        | none => simp only [write] at h; cases h; exact .pwSent v pw rfl rfl
        | some k => simp only [write] at h; cases h; exact .pwFailed v pw k rfl rfl
    · cases h; exact .more _
    · cases h; exact .failed _

end Mpd.Loop
