import Mpd.Frame
import Mpd.FrameOps
import MpdSpec.FrameSpec
import MpdProofs.Lemmas.AFrame
import MpdProofs.Lemmas.List
/-!
The slot vector with holes is read through `absSlots` (drop the holes); the hole-skipping iterators
`Fields` / `IntoIter` are shown, one call at a time, to be the two ends of the list queue `DQ` over
`absSlots`, and the std adaptors (`find_map`, `fold`, `count`, `collect`) and the pattern drivers
follow from that.
-/
namespace Mpd.FrameLemmas
open Mpd.SlotIter Mpd.FrameOps Mpd.FrameSpec

@[simp] theorem popFront_nil {α : Type} : popFront ([] : List α) = none := rfl
@[simp] theorem popFront_cons {α : Type} (a : α) (l : List α) : popFront (a :: l) = some (a, l) := rfl
@[simp] theorem popBack_nil {α : Type} : popBack ([] : List α) = none := rfl
@[simp] theorem popBack_concat {α : Type} (a : α) (l : List α) : popBack (l ++ [a]) = some (a, l) :=
  popBack_eq_some_iff.mpr rfl

@[simp] theorem DQ_next_nil {α : Type} : DQ.next ([] : List α) = (none, []) := rfl
@[simp] theorem DQ_next_cons {α : Type} (a : α) (l : List α) : DQ.next (a :: l) = (some a, l) := rfl
@[simp] theorem DQ_nextBack_nil {α : Type} : DQ.nextBack ([] : List α) = (none, []) := rfl
@[simp] theorem DQ_nextBack_snoc {α : Type} (a : α) (l : List α) : DQ.nextBack (l ++ [a]) = (some a, l) := by
  simp [DQ.nextBack]

theorem DQ_step_eq_none {α : Type} {b : Bool} {l : List α}
    (h : (if b then DQ.nextBack l else DQ.next l).1 = none) : l = [] := by
  cases b
  · simpa [DQ.next] using h
  · simpa [DQ.nextBack] using h

theorem DQ_next_eq_some {α : Type} {l : List α} {a : α} (h : (DQ.next l).1 = some a) :
    l = a :: (DQ.next l).2 := by
  cases l with
  | nil => cases h
  | cons b t => cases h; rfl

theorem DQ_nextBack_eq_some {α : Type} {l : List α} {a : α} (h : (DQ.nextBack l).1 = some a) :
    l = (DQ.nextBack l).2 ++ [a] := by
  obtain ⟨t, rfl⟩ := List.getLast?_eq_some_iff.mp h
  rw [DQ_nextBack_snoc]

theorem DQ_drive_nil {α : Type} (pat : List Bool) : DQ.drive pat ([] : List α) = pat.map (fun _ => none) := by
  induction pat with
  | nil => rfl
  | cons b pat ih => cases b <;> simp [DQ.drive, ih]

theorem DQ_fused {α : Type} (b : Bool) (pat : List Bool) (l : List α)
    (h : (if b then DQ.nextBack l else DQ.next l).1 = none) :
    DQ.drive pat (if b then DQ.nextBack l else DQ.next l).2 = pat.map (fun _ => none) := by
  obtain rfl := DQ_step_eq_none h
  cases b <;> simp [DQ_drive_nil]

theorem DQ_driveSized_fst {α : Type} (pat : List Bool) (l : List α) :
    (DQ.driveSized pat l).map (·.1) = DQ.drive pat l := by
  induction pat generalizing l with
  | nil => rfl
  | cons b pat ih => simp [DQ.driveSized, DQ.drive, ih]

theorem DQ_drive_all_front {α : Type} (l : List α) :
    DQ.drive (List.replicate l.length false) l = l.map some := by
  induction l with
  | nil => rfl
  | cons a t ih => simp [List.replicate_succ, DQ.drive, ih]

theorem DQ_drive_all_back {α : Type} (l : List α) :
    DQ.drive (List.replicate l.length true) l = l.reverse.map some := by
  induction l using snoc_induction with
  | nil => rfl
  | snoc t a ih => simp [List.replicate_succ, DQ.drive, ih]

theorem AInto_drive_nil (pat : List IStep) (hp : ∀ s ∈ pat, s ≠ .takeBinary) (b : Option Bytes) :
    AInto.drive pat { items := [], binary := b } = pat.map (fun _ => .kv none) := by
  induction pat with
  | nil => rfl
  | cons s pat ih =>
    have := ih (fun s hs => hp s (by simp [hs]))
    cases s with
    | next => simp [AInto.drive, AInto.step, this]
    | nextBack => simp [AInto.drive, AInto.step, this]
    | takeBinary => exact absurd rfl (hp _ (by simp))

theorem AInto_step_none {it : AInto} {s : IStep} (h : (it.step s).1 = .kv none) :
    (it.step s).2 = { it with items := [] } := by
  cases s with
  | next => simp [AInto.step, List.head?_eq_none_iff.mp (StepOut.kv.inj h)]
  | nextBack => simp [AInto.step, List.getLast?_eq_none_iff.mp (StepOut.kv.inj h)]
  | takeBinary => cases h

@[simp] theorem next_nil : Fields.next [] = (none, []) := by
  rw [Fields.next]; simp

@[simp] theorem next_hole (l : List Slot) : Fields.next (none :: l) = Fields.next l := by
  rw [Fields.next]; simp

@[simp] theorem next_some (kv : Bytes × Bytes) (l : List Slot) :
    Fields.next (some kv :: l) = (some kv, l) := by
  rw [Fields.next]; simp

@[simp] theorem nextBack_nil : Fields.nextBack [] = (none, []) := by
  rw [Fields.nextBack]; simp

@[simp] theorem nextBack_hole (l : List Slot) : Fields.nextBack (l ++ [none]) = Fields.nextBack l := by
  rw [Fields.nextBack]
  split <;> rename_i h <;> simp at h
  obtain ⟨_, rfl⟩ := h; rfl

@[simp] theorem nextBack_some (kv : Bytes × Bytes) (l : List Slot) :
    Fields.nextBack (l ++ [some kv]) = (some kv, l) := by
  rw [Fields.nextBack]
  split <;> rename_i h <;> simp at h
  obtain ⟨rfl, rfl⟩ := h; rfl

/-- drop the holes -/
def absSlots (l : List Slot) : List (Bytes × Bytes) := l.filterMap id

@[simp] theorem absSlots_nil : absSlots [] = [] := rfl
@[simp] theorem absSlots_hole (l : List Slot) : absSlots (none :: l) = absSlots l := by simp [absSlots]
@[simp] theorem absSlots_some (kv : Bytes × Bytes) (l : List Slot) :
    absSlots (some kv :: l) = kv :: absSlots l := by simp [absSlots]
@[simp] theorem absSlots_append (a b : List Slot) : absSlots (a ++ b) = absSlots a ++ absSlots b := by
  simp [absSlots]

@[simp] theorem abs_binary (f : Frame) : f.abs.binary = f.binary := rfl

theorem absSlots_snoc_hole (l : List Slot) : absSlots (l ++ [none]) = absSlots l := by simp
theorem absSlots_snoc_some (kv : Bytes × Bytes) (l : List Slot) :
    absSlots (l ++ [some kv]) = absSlots l ++ [kv] := by simp

theorem next_refines (l : List Slot) :
    (Fields.next l).1 = (DQ.next (absSlots l)).1 ∧ absSlots (Fields.next l).2 = (DQ.next (absSlots l)).2 := by
  induction l with
  | nil => simp
  | cons s t ih =>
    cases s with
    | none => simpa using ih
    | some kv => simp

theorem nextBack_refines (l : List Slot) :
    (Fields.nextBack l).1 = (DQ.nextBack (absSlots l)).1 ∧
      absSlots (Fields.nextBack l).2 = (DQ.nextBack (absSlots l)).2 := by
  induction l using snoc_induction with
  | nil => simp
  | snoc t s ih =>
    cases s with
    | none => simpa using ih
    | some kv => simp

theorem next_eq_none {l r : List Slot} (h : Fields.next l = (none, r)) : absSlots l = [] :=
  DQ_step_eq_none (b := false) ((next_refines l).1.symm.trans (congrArg Prod.fst h))

theorem next_eq_some {l r : List Slot} {kv : Bytes × Bytes} (h : Fields.next l = (some kv, r)) :
    absSlots l = kv :: absSlots r := by
  have hr := next_refines l
  rw [h] at hr
  rw [hr.2]
  exact DQ_next_eq_some hr.1.symm

theorem nextBack_eq_none {l r : List Slot} (h : Fields.nextBack l = (none, r)) : absSlots l = [] :=
  DQ_step_eq_none (b := true) ((nextBack_refines l).1.symm.trans (congrArg Prod.fst h))

theorem nextBack_eq_some {l r : List Slot} {kv : Bytes × Bytes} (h : Fields.nextBack l = (some kv, r)) :
    absSlots l = absSlots r ++ [kv] := by
  have hr := nextBack_refines l
  rw [h] at hr
  rw [hr.2]
  exact DQ_nextBack_eq_some hr.1.symm

theorem findMap_eq {β : Type} (p : Bytes × Bytes → Option β) (l : List Slot) :
    Fields.findMap p l = (absSlots l).findSome? p := by
  fun_induction Fields.findMap p l with
  | case1 it r h => simp [next_eq_none h]
  | case2 it kv rest h hlt b hb => simp [next_eq_some h, hb]
  | case3 it kv rest h hlt hb ih => simp [next_eq_some h, hb, ih]

theorem fold_eq {β : Type} (f : β → Bytes × Bytes → β) (acc : β) (l : List Slot) :
    Fields.fold f acc l = (absSlots l).foldl f acc := by
  fun_induction Fields.fold f acc l with
  | case1 acc it r h => simp [next_eq_none h]
  | case2 acc it kv rest h hlt ih => simp [next_eq_some h, ih]

theorem foldBack_eq {β : Type} (f : β → Bytes × Bytes → β) (acc : β) (l : List Slot) :
    Fields.foldBack f acc l = (absSlots l).reverse.foldl f acc := by
  fun_induction Fields.foldBack f acc l with
  | case1 acc it r h => simp [nextBack_eq_none h]
  | case2 acc it kv rest h hlt ih => simp [nextBack_eq_some h, ih]

theorem foldl_push {α : Type} (l acc : List α) : l.foldl (fun a x => a ++ [x]) acc = acc ++ l := by
  induction l generalizing acc with
  | nil => simp
  | cons a t ih => simp [ih]

theorem count_eq (l : List Slot) : Fields.count l = (absSlots l).length := by
  rw [Fields.count, fold_eq, List.foldl_add_const]; simp

theorem collect_eq (l : List Slot) : Fields.collect l = absSlots l := by
  rw [Fields.collect, fold_eq, foldl_push]; simp

theorem collectBack_eq (l : List Slot) : Fields.collectBack l = (absSlots l).reverse := by
  rw [Fields.collectBack, foldBack_eq, foldl_push]; simp

/-- `Frame::get` never shifts slots, it only punches a hole -/
theorem getSlots_spec (k : Bytes) (l : List Slot) :
    (Frame.getSlots k l).1 = ((absSlots l).find? (·.1 == k)).map (·.2) ∧
    absSlots (Frame.getSlots k l).2 = AFrame.eraseFirst k (absSlots l) ∧
    (Frame.getSlots k l).2.length = l.length := by
  fun_induction Frame.getSlots k l with
  | case1 => exact ⟨rfl, rfl, rfl⟩
  | case2 rest r ih => simpa using ih
  | case3 k' v rest h => simp [AFrame.eraseFirst, h]
  | case4 k' v rest h r ih =>
    have hf : (k' == k) = false := Bool.eq_false_iff.mpr h
    simpa [AFrame.eraseFirst, hf] using ih

theorem into_next_eq (it : IntoIter) :
    it.next = ((Fields.next it.iter).1, { it with iter := (Fields.next it.iter).2 }) := by
  fun_induction IntoIter.next it with
  | case1 it h => obtain ⟨i, b⟩ := it; simp at h; simp [popFront_eq_none_iff.mp h]
  | case2 it rest h hlt ih => rw [ih]; simp [popFront_eq_some_iff.mp h]
  | case3 it kv rest h => simp [popFront_eq_some_iff.mp h]

theorem into_nextBack_eq (it : IntoIter) :
    it.nextBack = ((Fields.nextBack it.iter).1, { it with iter := (Fields.nextBack it.iter).2 }) := by
  fun_induction IntoIter.nextBack it with
  | case1 it h => obtain ⟨i, b⟩ := it; simp at h; simp [popBack_eq_none_iff.mp h]
  | case2 it rest h hlt ih => rw [ih]; simp [popBack_eq_some_iff.mp h]
  | case3 it kv rest h => simp [popBack_eq_some_iff.mp h]

def absInto (it : IntoIter) : AInto := { items := absSlots it.iter, binary := it.binary }

theorem stepInto_refines (it : IntoIter) (s : IStep) :
    (stepInto it s).1 = ((absInto it).step s).1 ∧ absInto (stepInto it s).2 = ((absInto it).step s).2 := by
  cases s with
  | next =>
    have h := next_refines it.iter
    simp only [stepInto, into_next_eq]
    exact ⟨congrArg StepOut.kv h.1, congrArg (AInto.mk · it.binary) h.2⟩
  | nextBack =>
    have h := nextBack_refines it.iter
    simp only [stepInto, into_nextBack_eq]
    exact ⟨congrArg StepOut.kv h.1, congrArg (AInto.mk · it.binary) h.2⟩
  | takeBinary => exact ⟨rfl, rfl⟩

theorem driveInto_refines (pat : List IStep) (it : IntoIter) :
    driveInto pat it = AInto.drive pat (absInto it) := by
  induction pat generalizing it with
  | nil => rfl
  | cons s pat ih =>
    have := stepInto_refines it s
    simp only [driveInto, AInto.drive]
    rw [ih, this.1, this.2]

theorem fields_step_refines (b : Bool) (l : List Slot) :
    (if b then Fields.nextBack l else Fields.next l).1 = (if b then DQ.nextBack (absSlots l) else DQ.next (absSlots l)).1 ∧
    absSlots (if b then Fields.nextBack l else Fields.next l).2 =
      (if b then DQ.nextBack (absSlots l) else DQ.next (absSlots l)).2 := by
  cases b
  · exact next_refines l
  · exact nextBack_refines l

theorem driveFields_refines (pat : List Bool) (l : List Slot) :
    driveFields pat l = DQ.drive pat (absSlots l) := by
  induction pat generalizing l with
  | nil => rfl
  | cons b pat ih =>
    have := fields_step_refines b l
    simp only [driveFields, DQ.drive]
    rw [ih, this.1, this.2]

end Mpd.FrameLemmas
