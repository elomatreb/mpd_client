import Mpd.Commands
import Mpd.CommandParts
import MpdSpec.Requests
import MpdProofs.Lemmas.Bytes
import MpdProofs.Lemmas.Tok
import MpdProofs.Lemmas.Line
import MpdProofs.Lemmas.Filter
import MpdProofs.C06
import MpdProofs.C11
/-!
Lemmas for C15, model side. Which renderings are one argument that MPD reads back (`Enc`): strings outside
K1, `Plain` renderings, filters outside K2. The `command()` bodies are "name, then the typed pieces in order"
(`shape`), and a command made of acceptable pieces is tokenized into its name and the read-back pieces.
-/
namespace Mpd.CmdsL
open Mpd.Cmd Mpd.Commands Spec.Tok Mpd.TokL

theorem Enc.ofStr {a : Bytes} (hacc : C06.accepted a) (hk : isK1 a = false) : Enc (escapeArgument a) a := by
  have hr := reads_escapeArgument hacc.2
  rw [(readBack_eq_self_iff a).mpr hk] at hr
  exact Enc.of_reads hr ((C06.clean_rendered_iff a).mpr hacc)

def plainByte (b : UInt8) : Bool := !(isWs b) && !(shouldEscape b)

/-- `escape_argument` leaves it alone and MPD reads it as is -/
def Plain (r : Bytes) : Prop := r ≠ [] ∧ ∀ b ∈ r, plainByte b = true

instance (r : Bytes) : Decidable (Plain r) := by unfold Plain; infer_instance

theorem plainByte_iff (b : UInt8) : plainByte b = true ↔ isWs b = false ∧ shouldEscape b = false := by
  simp [plainByte]

theorem Plain.needsQuotes {r : Bytes} (h : Plain r) : needsQuotes r = false :=
  (needsQuotes_false_iff r).mpr ⟨h.1, fun b hb => ((plainByte_iff b).mp (h.2 b hb)).1⟩

theorem Plain.noEscape {r : Bytes} (h : Plain r) : r.any shouldEscape = false :=
  List.any_eq_false.mpr fun b hb => by simp [((plainByte_iff b).mp (h.2 b hb)).2]

theorem Plain.escape {r : Bytes} (h : Plain r) : escapeArgument r = r := by
  simp [escapeArgument, h.needsQuotes, h.noEscape]

theorem Plain.notK1 {r : Bytes} (h : Plain r) : isK1 r = false := by
  simp [isK1, h.noEscape]

theorem Plain.accepted {r : Bytes} (h : Plain r) : C06.accepted r :=
  C06.accepted_iff_clean.mpr (Clean.of_noWs fun b hb => ((plainByte_iff b).mp (h.2 b hb)).1)

theorem Enc.ofEscaped {r : Bytes} (h : Plain r) : Enc (escapeArgument r) r := Enc.ofStr h.accepted h.notK1

theorem Enc.ofPlain {r : Bytes} (h : Plain r) : Enc r r := by
  have := Enc.ofEscaped h
  rwa [h.escape] at this

theorem Plain.append {x y : Bytes} (hx : Plain x) (hy : ∀ b ∈ y, plainByte b = true) : Plain (x ++ y) :=
  ⟨by simp [hx.1], fun b hb => by
    rcases List.mem_append.mp hb with hb | hb
    · exact hx.2 b hb
    · exact hy b hb⟩

theorem Plain.cons {b : UInt8} {y : Bytes} (hb : plainByte b = true) (hy : ∀ x ∈ y, plainByte x = true) :
    Plain (b :: y) :=
  ⟨by simp, fun x hx => by
    rcases List.mem_cons.mp hx with rfl | hx
    · exact hb
    · exact hy x hx⟩

theorem digit_tagChar_plain : ∀ b : UInt8, (isDigit b || isTagChar b) = true → plainByte b = true := by
  intro b h
  rw [plainByte_iff]
  -- as numbers: 48–57, 65–90, 97–122, 95 and 45 are above 32 and are not 92, 34 or 39
  simp only [isDigit, isTagChar, isAlpha, isUpper, isLower, isWs, shouldEscape, USCORE, DASH, BSLASH, QUOTE, SQUOTE,
    Bool.or_eq_true, Bool.and_eq_true, Bool.or_eq_false_iff, decide_eq_true_eq, decide_eq_false_iff_not,
    beq_iff_eq, beq_eq_false_iff_ne, ne_eq, UInt8.le_iff_toNat_le, ← UInt8.toNat_inj, UInt8.reduceToNat] at h ⊢
  omega

theorem digits_all_plain {ds : Bytes} (h : ds.all isDigit = true) : ∀ b ∈ ds, plainByte b = true :=
  fun b hb => digit_tagChar_plain b (by rw [List.all_eq_true.mp h b hb]; rfl)

theorem plain_natToDec (n : Nat) : Plain (natToDec n) := by
  obtain ⟨h1, h2, _⟩ := natToDec_spec n
  exact ⟨h1, digits_all_plain h2⟩

def filterOk (f : FilterType) : Bool :=
  Filter.wf f && Filter.wordTags f && !(Filter.K2 f) && !(Filter.hasForbidden f)

theorem filterOk_iff (f : FilterType) : filterOk f = true ↔
    Filter.wf f = true ∧ Filter.wordTags f = true ∧ Filter.K2 f = false ∧ Filter.hasForbidden f = false := by
  simp [filterOk, and_assoc]

def filterRendered (f : FilterType) : Bytes := QUOTE :: Filter.esc1 (Filter.inner f) ++ [QUOTE]

theorem render_filterOk {f : FilterType} (h : filterOk f = true) : Filter.render f = some (filterRendered f) := by
  obtain ⟨h1, h2, h3, _⟩ := (filterOk_iff f).mp h
  rw [Filter.render, Filter.renderType_eq f h1 h2 h3]; rfl

theorem Enc.ofFilter {f : FilterType} (h : filterOk f = true) : Enc (filterRendered f) (Filter.inner f) := by
  obtain ⟨hwf, hw, hk, hn⟩ := (filterOk_iff f).mp h
  exact Enc.ofQuoted (Filter.clean_inner hw hk hn)

theorem foldl_addPart_append (c : Outcome Bytes) (xs ys : List Part) :
    (xs ++ ys).foldl addPart c = ys.foldl addPart (xs.foldl addPart c) := List.foldl_append

/-- `List.foldl addPart`, as a function of its own. `command c = parts (rawNew _) _` is checked by unfolding
both sides; the kernel unfolds the later definition first, and with `List.foldl` (which comes before
everything here) it would unfold `arg` on the left first, whose `match` makes it run `rawNew`, that is
`Command::build`, on every literal name. -/
def parts (c : Outcome Bytes) : List Part → Outcome Bytes
  | [] => c
  | p :: ps => parts (addPart c p) ps

theorem foldl_addPart_eq (c : Outcome Bytes) (ps : List Part) : ps.foldl addPart c = parts c ps := by
  induction ps generalizing c with
  | nil => rfl
  | cons p ps ih => exact ih _

theorem assemble_eq_parts (n : Bytes) (ps : List Part) : assemble n ps = parts (rawNew n) ps :=
  foldl_addPart_eq _ _

section
-- For the elaborator the names stay folded as well: whether a name is valid is `shape_nameOk`'s business.
attribute [local irreducible] rawNew str

theorem command_eq_assemble (c : PCmd) (h : ctorPanics c = false) :
    command c = assemble (shape c).1 (shape c).2 := by
  rw [assemble_eq_parts]
  cases c with
  | queueSong s => cases s <;> rfl
  | seekTo s d => cases s <;> rfl
  | playSong s => cases s <;> rfl
  | add uri pos => cases pos <;> rfl
  | move from' to =>
    cases from' with
    | id id => rfl
    | position p => rfl
    | range s e =>
      cases e with
      | unbounded => simp [ctorPanics] at h
      | _ => rfl
  | find f sort window =>
    cases sort <;> cases window <;> rfl
  | list t f g =>
    unfold command
    cases f <;> simp [← foldl_addPart_eq, listCommand, shape, optParts, List.foldl_flatMap, addPart]
  | countGrouped g f => cases f <;> rfl
  | loadPlaylist n r => cases r <;> rfl
  | addToPlaylist pl url pos => cases pos <;> rfl
  | listAllIn dir =>
    cases dir <;> rfl
  | tagTypesDisable tags =>
    cases tags with
    | nil => simp [ctorPanics] at h
    | cons t ts =>
      unfold command
      simp [← foldl_addPart_eq, tagTypesList, tagTypesCommand, shape, List.foldl_map, addPart]
  | tagTypesEnable tags =>
    cases tags with
    | nil => simp [ctorPanics] at h
    | cons t ts =>
      unfold command
      simp [← foldl_addPart_eq, tagTypesList, tagTypesCommand, shape, List.foldl_map, addPart]
  | stickerFind uri n f => cases f <;> rfl
  | update uri => cases uri <;> rfl
  | rescan uri => cases uri <;> rfl
  | _ => rfl

end

theorem command_ctorPanics (c : PCmd) (h : ctorPanics c = true) : command c = .panic := by
  unfold ctorPanics at h
  split at h
  · rfl
  · rfl
  · rfl
  · cases h

/-- the argument MPD's tokenizer reads back (for acceptable pieces, `Part.enc`) -/
def Part.tok : Part → Bytes
  | .str s => s
  | .kw w => w
  | .nat n => renderNat n
  | .pos p => p.render
  | .range r => r.render
  | .dur d => d.render
  | .seek m => m.format
  | .bool b => renderBool b
  | .tag t => t.name
  | .sortTag t => t.name
  | .filter f => Filter.inner f

/-- `add_argument` refuses the piece (LF / NUL in the rendering) or rendering it panics -/
def Part.bad (p : Part) : Prop :=
  match p.render with
  | none => True
  | some r => ¬ Clean r

theorem bad_str (s : Bytes) : (Part.str s).bad ↔ ¬ C06.accepted s := by
  simp only [Part.bad, Part.render]
  exact not_congr (C06.clean_rendered_iff s)

theorem bad_tag (t : Tag) : (Part.tag t).bad ↔ ¬ C06.accepted t.name := by
  simp only [Part.bad, Part.render]
  exact not_congr C06.accepted_iff_clean.symm

theorem bad_sortTag (t : Tag) : (Part.sortTag t).bad ↔ ¬ C06.accepted t.name := bad_str t.name

theorem bad_filter {f : FilterType} (h : Filter.wf f = true) :
    (Part.filter f).bad ↔ Filter.hasForbidden f = true := by
  simp only [Part.bad, Part.render, Filter.render_eq h, Filter.clean_render_iff f, Bool.not_eq_false]

theorem arg_ok (c r : Bytes) (h : Clean r) : arg (.ok c) r = .ok (c ++ SPACE :: r) := by
  simp [arg, addRendered_clean c r h]

theorem arg_unclean (c r : Bytes) (h : ¬ Clean r) : arg (.ok c) r = .panic := by
  obtain ⟨i, hi⟩ := addRendered_unclean c r h
  simp [arg, hi]

theorem addPart_render (c : Bytes) (p : Part) :
    addPart (.ok c) p = match p.render with
      | none => .panic
      | some r => arg (.ok c) r := by
  cases p <;> simp only [addPart, Part.render, argStr, argNat, argTag]
  case filter f => simp only [argFilter]; cases Filter.render f <;> rfl

theorem addPart_panic (p : Part) : addPart .panic p = .panic := by
  cases p <;> rfl

theorem addPart_bad (c : Bytes) {p : Part} (h : p.bad) : addPart (.ok c) p = .panic := by
  rw [addPart_render]
  unfold Part.bad at h
  cases hr : p.render with
  | none => rfl
  | some r => rw [hr] at h; exact arg_unclean c r h

def Part.rendered (p : Part) : Bytes := p.render.getD []

theorem addPart_good (c : Bytes) {p : Part} (h : ¬ p.bad) : addPart (.ok c) p = .ok (c ++ SPACE :: p.rendered) := by
  rw [addPart_render]
  unfold Part.rendered
  unfold Part.bad at h
  cases hr : p.render with
  | none => rw [hr] at h; exact absurd trivial h
  | some r => rw [hr] at h; exact arg_ok c r (Decidable.not_not.mp h)

theorem parts_panic (ps : List Part) : parts .panic ps = .panic := by
  induction ps with
  | nil => rfl
  | cons p ps ih => rw [parts, addPart_panic, ih]

theorem parts_panic_iff (c : Bytes) (ps : List Part) : parts (.ok c) ps = .panic ↔ ∃ p ∈ ps, p.bad := by
  induction ps generalizing c with
  | nil => simp [parts]
  | cons p ps ih =>
    simp only [parts, List.mem_cons, exists_eq_or_imp]
    by_cases hb : p.bad
    · simp [addPart_bad c hb, parts_panic, hb]
    · simp [addPart_good c hb, ih, hb]

theorem parts_ok (c : Bytes) (ps : List Part) (h : ∀ p ∈ ps, ¬ p.bad) :
    parts (.ok c) ps = .ok (c ++ encArgs (ps.map Part.rendered)) := by
  induction ps generalizing c with
  | nil => simp [parts]
  | cons p ps ih =>
    rw [parts, addPart_good c (h p (by simp)), ih _ fun q hq => h q (by simp [hq])]
    simp

theorem rawNew_ok {n : Bytes} (hn : NameOk n) : rawNew n = .ok n := by
  rw [rawNew, (build_ok_iff n n).mpr ⟨rfl, hn⟩]

theorem assemble_panic_iff {n : Bytes} (hn : NameOk n) (ps : List Part) :
    assemble n ps = .panic ↔ ∃ p ∈ ps, p.bad := by
  rw [assemble_eq_parts, rawNew_ok hn, parts_panic_iff]

theorem assemble_ok {n : Bytes} (hn : NameOk n) {ps : List Part} (h : ∀ p ∈ ps, ¬ p.bad) :
    assemble n ps = .ok (n ++ encArgs (ps.map Part.rendered)) := by
  rw [assemble_eq_parts, rawNew_ok hn, parts_ok n ps h]

theorem mem_strings {c : PCmd} {s : Bytes} : s ∈ c.strings ↔ Part.str s ∈ (shape c).2 := by
  simp only [PCmd.strings, List.mem_filterMap]
  constructor
  · rintro ⟨p, hp, h⟩
    cases p <;> simp at h
    exact h ▸ hp
  · exact fun h => ⟨_, h, rfl⟩

theorem mem_tags {c : PCmd} {t : Tag} : t ∈ c.tags ↔ Part.tag t ∈ (shape c).2 ∨ Part.sortTag t ∈ (shape c).2 := by
  simp only [PCmd.tags, List.mem_filterMap]
  constructor
  · rintro ⟨p, hp, h⟩
    cases p <;> simp at h
    · exact .inl (h ▸ hp)
    · exact .inr (h ▸ hp)
  · rintro (h | h)
    · exact ⟨_, h, rfl⟩
    · exact ⟨_, h, rfl⟩

theorem mem_filters {c : PCmd} {f : FilterType} : f ∈ c.filters ↔ Part.filter f ∈ (shape c).2 := by
  simp only [PCmd.filters, List.mem_filterMap]
  constructor
  · rintro ⟨p, hp, h⟩
    cases p <;> simp at h
    exact h ▸ hp
  · exact fun h => ⟨_, h, rfl⟩

theorem mem_durs {c : PCmd} {d : Dur} :
    d ∈ c.durs ↔ Part.dur d ∈ (shape c).2 ∨ ∃ m, Part.seek m ∈ (shape c).2 ∧ m.dur = d := by
  simp only [PCmd.durs, List.mem_filterMap]
  constructor
  · rintro ⟨p, hp, h⟩
    cases p <;> simp at h
    · exact .inl (h ▸ hp)
    · exact .inr ⟨_, hp, h⟩
  · rintro (h | ⟨m, h, rfl⟩)
    · exact ⟨_, h, rfl⟩
    · exact ⟨_, h, rfl⟩

theorem plain_pos (p : PositionOrRelative) : Plain p.render := by
  cases p with
  | absolute n => exact plain_natToDec n
  | beforeCurrent n => exact Plain.cons (by decide) (plain_natToDec n).2
  | afterCurrent n => exact Plain.cons (by decide) (plain_natToDec n).2

theorem plain_range (r : SongRange) : Plain r.render := by
  unfold SongRange.render
  cases r.hi with
  | none => exact (plain_natToDec r.lo).append (by decide)
  | some to =>
    exact ((plain_natToDec r.lo).append (by decide)).append (plain_natToDec to).2

theorem pad3_digits (n : Nat) : (F64.pad3 n).all isDigit = true := by
  have h := (natToDec_spec n).2.1
  unfold F64.pad3
  split
  · rw [List.all_append, h]; decide
  · split
    · rw [List.all_append, h]; decide
    · simpa using h

theorem plain_dur (d : Dur) : Plain d.render := by
  unfold Dur.render F64.renderDuration
  exact ((plain_natToDec _).append (by decide)).append (digits_all_plain (pad3_digits _))

theorem plain_seek (m : SeekMode) : Plain m.format := by
  cases m with
  | absolute d => exact plain_dur d
  | forward d => exact Plain.cons (by decide) (plain_dur d).2
  | backward d => exact Plain.cons (by decide) (plain_dur d).2

theorem plain_bool (b : Bool) : Plain (renderBool b) := by cases b <;> decide

theorem plain_tag {t : Tag} (h : tagOk t = true) : Plain t.name := by
  simp only [tagOk, Bool.and_eq_true, Bool.not_eq_true', List.isEmpty_eq_false_iff, List.all_eq_true] at h
  exact ⟨h.1, fun b hb => digit_tagChar_plain b (by rw [h.2 b hb, Bool.or_true])⟩

theorem tagOk_of_wordTag {t : Tag} (h : Filter.isWordTag t.name = true) : tagOk t = true := by
  simp only [Filter.isWordTag, Bool.and_eq_true] at h
  cases hn : t.name with
  | nil => simp [hn, Filter.isWord] at h
  | cons b bs =>
    simp only [hn, Filter.isWord, Bool.and_eq_true, List.all_eq_true] at h
    simp only [tagOk, hn, List.isEmpty_cons, Bool.not_false, Bool.true_and, List.all_cons, Bool.and_eq_true,
      List.all_eq_true]
    exact ⟨by simp [isTagChar, h.1.1], h.1.2⟩

theorem tagOk_named (v : TagV) : tagOk (.named v) = true := tagOk_of_wordTag (C11.C11_named_wordTag v)

def strOk (s : Bytes) : Bool := decide (C06.accepted s) && !(isK1 s)

/-- a piece for which the request is well defined and inside the proved classes -/
def Part.ok : Part → Bool
  | .str s => strOk s
  | .kw w => decide (Plain w)
  | .tag t => tagOk t
  | .sortTag t => tagOk t
  | .filter f => filterOk f
  | _ => true

/-- `kw`, `seek` and `sortTag` are the pieces the Rust passes through `escape_argument` although they are plain
(`&'static str`, the `format!`ted `String`, `sort.as_str()`): `Enc.ofEscaped`; the other plain renderings are
written as they are: `Enc.ofPlain` -/
theorem Part.enc {p : Part} (h : p.ok = true) : ∃ r, p.render = some r ∧ Enc r p.tok := by
  cases p with
  | str s =>
    simp only [Part.ok, strOk, Bool.and_eq_true, decide_eq_true_eq, Bool.not_eq_true'] at h
    exact ⟨_, rfl, Enc.ofStr h.1 h.2⟩
  | kw w => exact ⟨_, rfl, Enc.ofEscaped (by simpa [Part.ok] using h)⟩
  | nat n => exact ⟨_, rfl, Enc.ofPlain (plain_natToDec n)⟩
  | pos q => exact ⟨_, rfl, Enc.ofPlain (plain_pos q)⟩
  | range r => exact ⟨_, rfl, Enc.ofPlain (plain_range r)⟩
  | dur d => exact ⟨_, rfl, Enc.ofPlain (plain_dur d)⟩
  | seek m => exact ⟨_, rfl, Enc.ofEscaped (plain_seek m)⟩
  | bool b => exact ⟨_, rfl, Enc.ofPlain (plain_bool b)⟩
  | tag t => exact ⟨_, rfl, Enc.ofPlain (plain_tag h)⟩
  | sortTag t => exact ⟨_, rfl, Enc.ofEscaped (plain_tag h)⟩
  | filter f => exact ⟨_, render_filterOk h, Enc.ofFilter h⟩

theorem Part.ok_not_bad {p : Part} (h : p.ok = true) : ¬ p.bad := by
  obtain ⟨r, hr, he⟩ := Part.enc h
  unfold Part.bad
  rw [hr]
  exact fun hc => hc he.clean

theorem assemble_tokenize {name : Bytes} (hn : NameOk name) (ps : List Part) (h : ∀ p ∈ ps, p.ok = true) :
    ∃ line, assemble name ps = .ok line ∧
      tokenizeLine line = some (name, ps.map Part.tok) ∧
      tokenizeStream (sendBytes line) = some [some (name, ps.map Part.tok)] := by
  let pairs : Pairs := ps.map fun p => (p.rendered, p.tok)
  have hp : ∀ q ∈ pairs, Enc q.1 q.2 := by
    intro q hq
    obtain ⟨p, hp, rfl⟩ := List.mem_map.mp hq
    obtain ⟨r, hr, he⟩ := Part.enc (h p hp)
    simpa [Part.rendered, hr] using he
  have hrs : pairs.rs = ps.map Part.rendered := by simp [pairs, Pairs.rs]
  have has : pairs.as = ps.map Part.tok := by simp [pairs, Pairs.as]
  refine ⟨name ++ encArgs (ps.map Part.rendered), ?_, ?_, ?_⟩
  · exact assemble_ok hn fun p hp => Part.ok_not_bad (h p hp)
  · rw [← hrs, ← has]; exact tokenizeLine_encLine hn pairs hp
  · rw [← hrs, ← has]; exact tokenizeStream_encLine hn pairs hp

end Mpd.CmdsL
