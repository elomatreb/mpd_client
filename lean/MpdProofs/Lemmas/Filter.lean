import Mpd.Filter
import MpdSpec.Tokenizer
import MpdSpec.FilterParse
import MpdProofs.Lemmas.Tok
import MpdProofs.Lemmas.Line
/-!
Lemmas for C11. A value is escaped twice: `esc1` is undone by MPD's request tokenizer, `escV` by
`ExpectQuoted`. The tree is read left to right as a list of lexemes (`toks`); the rendering `rend` and `inner`
(the rendering with the first escaping level removed, what the filter parser receives) are both a `flatMap` of
it, so that what relates the two is said lexeme by lexeme. The quoted rendering is one argument that the
tokenizer reads back as `inner`; MPD's `ParseExpression` reads `inner` back as the expression the filter
denotes (`mirror`).
-/
namespace Mpd.Filter

open Spec.Filter renaming LPAREN → LP, RPAREN → RP

/-- the escaping undone by the request tokenizer inside `"…"`: a backslash before `\` and `"` -/
def esc1 : Bytes → Bytes
  | [] => []
  | b :: bs => if b == BSLASH || b == QUOTE then BSLASH :: b :: esc1 bs else b :: esc1 bs

/-- the escaping undone by `ExpectQuoted` (for values without `"`): a backslash before `\` -/
def escV : Bytes → Bytes
  | [] => []
  | b :: bs => if b == BSLASH then BSLASH :: BSLASH :: escV bs else b :: escV bs

theorem esc1_nil : esc1 [] = [] := rfl
@[simp] theorem escV_nil : escV [] = [] := rfl

theorem esc1_eq_flatMap (a : Bytes) :
    esc1 a = a.flatMap fun b => if b == BSLASH || b == QUOTE then [BSLASH, b] else [b] :=
  eq_flatMap rfl (fun x xs => by rw [esc1]; split <;> rfl) a

theorem esc1_append (a b : Bytes) : esc1 (a ++ b) = esc1 a ++ esc1 b := by
  simp only [esc1_eq_flatMap, List.flatMap_append]

theorem esc1_id {a : Bytes} (h : ∀ b ∈ a, b ≠ BSLASH ∧ b ≠ QUOTE) : esc1 a = a := by
  induction a with
  | nil => rfl
  | cons x xs ih =>
    have hx := h x (by simp)
    rw [esc1, ih (fun b hb => h b (by simp [hb]))]
    simp [hx.1, hx.2]

theorem replaceByte_append (b : UInt8) (rep x y : Bytes) :
    replaceByte b rep (x ++ y) = replaceByte b rep x ++ replaceByte b rep y := by
  induction x with
  | nil => rfl
  | cons a as ih => simp only [List.cons_append, replaceByte, ih]; split <;> simp

theorem replaceByte_id {b : UInt8} {rep v : Bytes} (h : b ∉ v) : replaceByte b rep v = v := by
  induction v with
  | nil => rfl
  | cons x xs ih =>
    have hx : x ≠ b := fun e => h (by simp [e])
    rw [replaceByte, ih (fun hb => h (by simp [hb]))]
    simp [hx]

/-- the `contains` guard of `escape_filter_value` is only an optimisation -/
theorem escapeFilterValue_eq (v : Bytes) :
    escapeFilterValue v =
      replaceByte QUOTE [BSLASH, BSLASH, QUOTE] (replaceByte BSLASH [BSLASH, BSLASH, BSLASH, BSLASH] v) := by
  unfold escapeFilterValue
  split
  · rfl
  · rename_i h
    have h' : ∀ b ∈ v, ¬ b = QUOTE ∧ ¬ b = BSLASH := by simpa using h
    rw [replaceByte_id (fun hb => (h' _ hb).2 rfl), replaceByte_id (fun hb => (h' _ hb).1 rfl)]

/-- a value without `"`: the two `replace` calls are exactly two nested escaping levels -/
theorem escape_noquote {v : Bytes} (h : QUOTE ∉ v) :
    replaceByte QUOTE [BSLASH, BSLASH, QUOTE] (replaceByte BSLASH [BSLASH, BSLASH, BSLASH, BSLASH] v) =
      esc1 (escV v) := by
  induction v with
  | nil => rfl
  | cons x xs ih =>
    have hx : x ≠ QUOTE := fun e => h (by simp [e])
    have ih' := ih (fun hb => h (by simp [hb]))
    by_cases hb : x = BSLASH
    · subst hb
      have hq : (BSLASH == QUOTE) = false := by decide
      simp [replaceByte, escV, esc1, ih', hq]
    · simp [replaceByte, escV, esc1, hb, hx, ih']

theorem escapeFilterValue_noquote {v : Bytes} (h : QUOTE ∉ v) : escapeFilterValue v = esc1 (escV v) := by
  rw [escapeFilterValue_eq, escape_noquote h]

theorem escapeFilterValue_quote {a b : Bytes} (h : QUOTE ∉ a) :
    escapeFilterValue (a ++ QUOTE :: b) = esc1 (escV a) ++ BSLASH :: BSLASH :: QUOTE :: escapeFilterValue b := by
  rw [escapeFilterValue_eq, escapeFilterValue_eq, replaceByte_append, replaceByte_append, escape_noquote h]
  have hq : (QUOTE == BSLASH) = false := by decide
  simp [replaceByte, hq]

theorem esc1_cons_plain {b : UInt8} (h1 : b ≠ BSLASH) (h2 : b ≠ QUOTE) (bs : Bytes) :
    esc1 (b :: bs) = b :: esc1 bs := by
  simp [esc1, h1, h2]

theorem esc1_cons_quote (bs : Bytes) : esc1 (QUOTE :: bs) = BSLASH :: QUOTE :: esc1 bs := by
  simp [esc1]

theorem isTagChar_plain {b : UInt8} (h : isTagChar b = true) : b ≠ BSLASH ∧ b ≠ QUOTE := by
  constructor <;> (rintro rfl; revert h; decide)

theorem isWord_tagChars {n : Bytes} (h : isWord n = true) : ∀ b ∈ n, isTagChar b = true := by
  cases n with
  | nil => simp
  | cons x xs =>
    simp only [isWord, Bool.and_eq_true, List.all_eq_true] at h
    intro b hb
    rcases List.mem_cons.mp hb with rfl | hb
    · simp [isTagChar, h.1]
    · exact h.2 b hb

theorem isWord_plain {n : Bytes} (h : isWord n = true) : ∀ b ∈ n, b ≠ BSLASH ∧ b ≠ QUOTE :=
  fun b hb => isTagChar_plain (isWord_tagChars h b hb)

theorem esc1_asStr (op : Operator) : esc1 op.asStr = op.asStr := by
  cases op <;> decide +kernel

section rendering
open Spec.Filter

theorem LPAREN_eq : Mpd.Filter.LPAREN = Spec.Filter.LPAREN := rfl
theorem RPAREN_eq : Mpd.Filter.RPAREN = Spec.Filter.RPAREN := rfl

def specOp : Operator → Op
  | .equal => .equal
  | .notEqual => .notEqual
  | .contain => .contain
  | .matches => .matches
  | .notMatch => .notMatches

mutual
/-- total: the `assert!` of `renderType` is not part of it -/
def inner : FilterType → Bytes
  | .tag t op v => LP :: t.name ++ SPACE :: op.asStr ++ SPACE :: QUOTE :: escV v ++ [QUOTE, RP]
  | .not f => LP :: BANG :: inner f ++ [RP]
  | .and fs => LP :: innerAnd fs true ++ [RP]
def innerAnd : List FilterType → Bool → Bytes
  | [], _ => []
  | f :: fs, first => (if first then [] else SPACE :: AND ++ [SPACE]) ++ inner f ++ innerAnd fs false
end

mutual
/-- the expression a filter denotes, in the specification's vocabulary -/
def mirror : FilterType → Expr
  | .tag t op v => .tag t.name (specOp op) v
  | .not f => .not (mirror f)
  | .and fs => .and (mirrorList fs)
def mirrorList : List FilterType → List Expr
  | [] => []
  | f :: fs => mirror f :: mirrorList fs
end

theorem mirrorList_eq_map (fs : List FilterType) : mirrorList fs = fs.map mirror := by
  induction fs with
  | nil => rfl
  | cons f fs ih => simp [mirrorList, ih]

theorem inner_cons (f : FilterType) : ∃ t, inner f = LP :: t := by
  cases f <;> simp [inner]

theorem inner_le_innerAnd {f : FilterType} {fs : List FilterType} (h : f ∈ fs) (b : Bool) :
    (inner f).length ≤ (innerAnd fs b).length := by
  induction fs generalizing b with
  | nil => simp at h
  | cons g gs ih =>
    simp only [List.mem_cons] at h
    rcases h with rfl | h
    · simp [innerAnd]; omega
    · have := ih h false
      simp [innerAnd]; omega

def isAnd : FilterType → Bool
  | .and _ => true
  | _ => false

mutual
/-- every `And` node has at least two children and no `And` child -/
def wf : FilterType → Bool
  | .tag _ _ _ => true
  | .not f => wf f
  | .and fs => decide (2 ≤ fs.length) && wfList fs
def wfList : List FilterType → Bool
  | [] => true
  | f :: fs => wf f && !isAnd f && wfList fs
end

theorem wfList_iff (fs : List FilterType) : wfList fs = true ↔ ∀ f ∈ fs, wf f = true ∧ isAnd f = false := by
  induction fs with
  | nil => simp [wfList]
  | cons f fs ih => simp [wfList, ih, and_assoc]

theorem leaves_and (fs : List FilterType) : leaves (.and fs) = fs.flatMap leaves := by
  rw [leaves]
  induction fs with
  | nil => rfl
  | cons f fs ih => simp [leavesList, ih]

theorem wordTags_and (fs : List FilterType) : wordTags (.and fs) = true ↔ ∀ f ∈ fs, wordTags f = true := by
  simp only [wordTags, leaves_and, List.all_flatMap, List.all_eq_true]

theorem K2_and (fs : List FilterType) : K2 (.and fs) = false ↔ ∀ f ∈ fs, K2 f = false := by
  simp only [K2, leaves_and, List.any_flatMap, List.any_eq_false, Bool.not_eq_true]

theorem hasForbidden_and (fs : List FilterType) : hasForbidden (.and fs) = false ↔ ∀ f ∈ fs, hasForbidden f = false := by
  simp only [hasForbidden, leaves_and, List.any_flatMap, List.any_eq_false, Bool.not_eq_true]

theorem FilterType.induct {P : FilterType → Prop} (tag : ∀ t op v, P (.tag t op v))
    (not : ∀ f, P f → P (.not f)) (and : ∀ fs, (∀ f ∈ fs, P f) → P (.and fs)) : ∀ f, P f := by
  intro f
  refine FilterType.rec (motive_1 := P) (motive_2 := fun fs => ∀ f ∈ fs, P f) tag not and ?_ ?_ f
  · simp
  · intro h t ph pt f hf
    simp only [List.mem_cons] at hf
    rcases hf with rfl | hf
    · exact ph
    · exact pt f hf

theorem str_sep : str " AND " = SPACE :: AND ++ [SPACE] := by decide
theorem str_open_not : str "(!" = [LP, BANG] := by decide

/-- what a rendered filter is made of: `(`, `(!`, `)`, ` AND `, and a leaf `(TAG OP "VALUE")` -/
inductive Lexeme where
  | lp | lpNot | rp | sep
  | leaf (l : Tag × Operator × Bytes)

mutual
/-- the tree read left to right; `toksAnd` puts `sep` in front of every operand but the first -/
def toks : FilterType → List Lexeme
  | .tag t op v => [.leaf (t, op, v)]
  | .not f => .lpNot :: toks f ++ [.rp]
  | .and fs => .lp :: toksAnd fs true ++ [.rp]
def toksAnd : List FilterType → Bool → List Lexeme
  | [], _ => []
  | f :: fs, first => (if first then [] else [.sep]) ++ toks f ++ toksAnd fs false
end

/-- the bytes of a lexeme with the value escaped by `val` between the quotes `q` -/
def Lexeme.emit (q : Bytes) (val : Bytes → Bytes) : Lexeme → Bytes
  | .lp => [Filter.LPAREN]
  | .lpNot => str "(!"
  | .rp => [Filter.RPAREN]
  | .sep => str " AND "
  | .leaf (t, op, v) => Filter.LPAREN :: t.name ++ SPACE :: op.asStr ++ SPACE :: q ++ val v ++ q ++ [Filter.RPAREN]

@[simp] def Lexeme.leaf? : Lexeme → Option (Tag × Operator × Bytes)
  | .leaf l => some l
  | _ => none

/-- the rendering, total: the `assert!` is not part of it -/
def rend (f : FilterType) : Bytes := (toks f).flatMap (Lexeme.emit [BSLASH, QUOTE] escapeFilterValue)

mutual
theorem renderType_rend : ∀ f : FilterType, wf f = true → renderType f = some (rend f)
  | .tag t op v, _ => by simp [renderType, rend, toks, Lexeme.emit]
  | .not f, h => by
    rw [renderType, renderType_rend f h]
    simp [rend, toks, Lexeme.emit]
  | .and fs, h => by
    simp only [wf, Bool.and_eq_true, decide_eq_true_eq] at h
    have : ¬ fs.length < 2 := by omega
    rw [renderType, renderAnd_toks fs true h.2]
    simp [this, rend, toks, Lexeme.emit]
theorem renderAnd_toks : ∀ (fs : List FilterType) (first : Bool), wfList fs = true →
    renderAnd fs first = some ((toksAnd fs first).flatMap (Lexeme.emit [BSLASH, QUOTE] escapeFilterValue))
  | [], _, _ => rfl
  | f :: fs, first, h => by
    simp only [wfList, Bool.and_eq_true] at h
    rw [renderAnd, renderType_rend f h.1.1, renderAnd_toks fs false h.2]
    cases first <;> simp [toksAnd, rend, Lexeme.emit]
end

mutual
theorem toks_leaves : ∀ f : FilterType, (toks f).filterMap Lexeme.leaf? = leaves f
  | .tag t op v => rfl
  | .not f => by simp [toks, leaves, List.filterMap_cons, List.filterMap_append, toks_leaves f]
  | .and fs => by simp [toks, leaves, List.filterMap_cons, List.filterMap_append, toksAnd_leaves fs true]
theorem toksAnd_leaves : ∀ (fs : List FilterType) (first : Bool),
    (toksAnd fs first).filterMap Lexeme.leaf? = leavesList fs
  | [], _ => rfl
  | f :: fs, first => by
    cases first <;>
      simp [toksAnd, leavesList, List.filterMap_cons, List.filterMap_append, toks_leaves f, toksAnd_leaves fs false]
end

mutual
theorem inner_toks : ∀ f : FilterType, inner f = (toks f).flatMap (Lexeme.emit [QUOTE] escV)
  | .tag t op v => by simp [inner, toks, Lexeme.emit, LPAREN_eq, RPAREN_eq]
  | .not f => by simp [inner, toks, Lexeme.emit, inner_toks f, str_open_not, RPAREN_eq]
  | .and fs => by simp [inner, toks, Lexeme.emit, innerAnd_toks fs true, LPAREN_eq, RPAREN_eq]
theorem innerAnd_toks : ∀ (fs : List FilterType) (first : Bool),
    innerAnd fs first = (toksAnd fs first).flatMap (Lexeme.emit [QUOTE] escV)
  | [], _ => rfl
  | f :: fs, first => by
    cases first <;> simp [toksAnd, innerAnd, inner_toks f, innerAnd_toks fs false, Lexeme.emit, str_sep]
end

theorem mem_leaves_iff {f : FilterType} {l} : l ∈ leaves f ↔ Lexeme.leaf l ∈ toks f := by
  rw [← toks_leaves, List.mem_filterMap]
  constructor
  · rintro ⟨p, hp, h⟩
    cases p <;> simp at h
    exact h ▸ hp
  · exact fun h => ⟨_, h, rfl⟩

/-- punctuation is its own `esc1`-escaping; a leaf is, if its tag is a word and its value has no `"` -/
theorem Lexeme.emit_esc1 (p : Lexeme) (h : ∀ t op v, p = .leaf (t, op, v) → isWord t.name = true ∧ QUOTE ∉ v) :
    p.emit [BSLASH, QUOTE] escapeFilterValue = esc1 (p.emit [QUOTE] escV) := by
  cases p with
  | leaf l =>
    obtain ⟨t, op, v⟩ := l
    obtain ⟨hword, hq⟩ := h t op v rfl
    have hlp : Filter.LPAREN ≠ BSLASH ∧ Filter.LPAREN ≠ QUOTE := by decide
    have hrp : Filter.RPAREN ≠ BSLASH ∧ Filter.RPAREN ≠ QUOTE := by decide
    have hsp : SPACE ≠ BSLASH ∧ SPACE ≠ QUOTE := by decide
    simp only [Lexeme.emit, esc1_append, esc1_cons_plain hlp.1 hlp.2, esc1_cons_plain hsp.1 hsp.2,
      esc1_cons_plain hrp.1 hrp.2, esc1_cons_quote, esc1_id (isWord_plain hword), esc1_asStr, esc1_nil,
      escapeFilterValue_noquote hq]
  | lp => decide +kernel
  | lpNot => decide +kernel
  | rp => decide +kernel
  | sep => decide +kernel

theorem isWord_of_wordTags {f : FilterType} (hw : wordTags f = true) {t op v} (h : Lexeme.leaf (t, op, v) ∈ toks f) :
    isWord t.name = true := by
  have := (List.all_eq_true.mp hw) _ (mem_leaves_iff.mpr h)
  simp only [isWordTag, Bool.and_eq_true] at this
  exact this.1

theorem rend_eq_esc1_inner (f : FilterType) (hw : wordTags f = true) (hk : K2 f = false) :
    rend f = esc1 (inner f) := by
  rw [inner_toks, rend, esc1_eq_flatMap, List.flatMap_assoc, List.flatMap_def, List.flatMap_def]
  congr 1
  apply List.map_congr_left
  intro p hp
  rw [← esc1_eq_flatMap]
  refine p.emit_esc1 fun t op v e => ⟨isWord_of_wordTags hw (e ▸ hp), ?_⟩
  simpa using (List.any_eq_false.mp hk) _ (mem_leaves_iff.mpr (e ▸ hp))

theorem renderType_eq (f : FilterType) (hwf : wf f = true) (hw : wordTags f = true) (hk : K2 f = false) :
    renderType f = some (esc1 (inner f)) := by
  rw [renderType_rend f hwf, rend_eq_esc1_inner f hw hk]

theorem render_eq {f : FilterType} (hwf : wf f = true) : Filter.render f = some (QUOTE :: rend f ++ [QUOTE]) := by
  rw [Filter.render, renderType_rend f hwf]

end rendering

section forbidden
open TokL

theorem clean_iff_any (r : Bytes) : Clean r ↔ r.any isForbidden = false := by
  rw [clean_iff, List.any_eq_false]; simp only [Bool.not_eq_true]

theorem any_replaceByte {p : UInt8 → Bool} {x : UInt8} {rep : Bytes} (hx : p x = false) (hrep : rep.any p = false)
    (v : Bytes) : (replaceByte x rep v).any p = v.any p := by
  induction v with
  | nil => rfl
  | cons y ys ih =>
    rw [replaceByte]
    split
    · rename_i hy
      rw [List.any_append, hrep, ih, List.any_cons, eq_of_beq hy, hx]
    · rw [List.any_cons, List.any_cons, ih]

theorem any_escapeFilterValue (v : Bytes) : (escapeFilterValue v).any isForbidden = v.any isForbidden := by
  rw [escapeFilterValue_eq, any_replaceByte (by decide) (by decide), any_replaceByte (by decide) (by decide)]

/-- of a lexeme's bytes only a leaf's name and value can be LF or NUL -/
theorem Lexeme.any_emit (p : Lexeme) : (p.emit [BSLASH, QUOTE] escapeFilterValue).any isForbidden =
    match p.leaf? with
    | some l => l.1.name.any isForbidden || l.2.2.any isForbidden
    | none => false := by
  cases p with
  | leaf l =>
    obtain ⟨t, op, v⟩ := l
    have hop : op.asStr.any isForbidden = false := by cases op <;> decide +kernel
    have h : ∀ b ∈ [Filter.LPAREN, SPACE, BSLASH, QUOTE, Filter.RPAREN], isForbidden b = false := by decide
    simp [Lexeme.emit, List.any_append, hop, any_escapeFilterValue, h]
  | lp => decide +kernel
  | lpNot => decide +kernel
  | rp => decide +kernel
  | sep => decide +kernel

/-- LF and NUL are in the rendering exactly when they are in a tag name or a value -/
theorem any_rend (f : FilterType) : (rend f).any isForbidden = hasForbidden f := by
  rw [rend, List.any_flatMap, hasForbidden, ← toks_leaves, List.any_filterMap]
  congr 1; funext p
  rw [Lexeme.any_emit]; cases p <;> rfl

theorem clean_rend_iff (f : FilterType) : Clean (rend f) ↔ hasForbidden f = false := by
  rw [clean_iff_any, any_rend]

theorem clean_render_iff (f : FilterType) : Clean (QUOTE :: rend f ++ [QUOTE]) ↔ hasForbidden f = false := by
  rw [clean_quoted, clean_rend_iff]

theorem clean_esc1_iff (a : Bytes) : Clean (esc1 a) ↔ Clean a :=
  esc1_eq_flatMap a ▸ clean_escaped _ a

theorem clean_inner {f : FilterType} (hw : wordTags f = true) (hk : K2 f = false)
    (hn : hasForbidden f = false) : Clean (inner f) := by
  rw [← clean_esc1_iff, ← rend_eq_esc1_inner f hw hk, clean_rend_iff, hn]

end forbidden

open Spec.Filter

section parser

theorem stripLeft_nonws {b : UInt8} (h : isWs b = false) (bs : Bytes) : stripLeft (b :: bs) = b :: bs := by
  simp [stripLeft, h]

theorem stripLeft_space (bs : Bytes) : stripLeft (SPACE :: bs) = stripLeft bs := by
  have : isWs SPACE = true := by decide
  simp [stripLeft, this]

theorem quotedBody_close (q : UInt8) (bs : Bytes) : quotedBody q (q :: bs) = some ([], stripLeft bs) := by
  rw [quotedBody.eq_def]; simp

theorem quotedBody_bslash {q : UInt8} (hq : BSLASH ≠ q) (c : UInt8) (cs : Bytes) :
    quotedBody q (BSLASH :: c :: cs) = (quotedBody q cs).map fun p => (c :: p.1, p.2) := by
  rw [quotedBody.eq_def]; simp [hq]

theorem quotedBody_plain {q b : UInt8} (h1 : b ≠ q) (h2 : b ≠ BSLASH) (bs : Bytes) :
    quotedBody q (b :: bs) = (quotedBody q bs).map fun p => (b :: p.1, p.2) := by
  rw [quotedBody.eq_def]; simp [h1, h2]

theorem quotedBody_escV {v : Bytes} (h : QUOTE ∉ v) (k : Bytes) :
    quotedBody QUOTE (escV v ++ QUOTE :: k) = some (v, stripLeft k) := by
  induction v with
  | nil => simp [quotedBody_close]
  | cons x xs ih =>
    have hx : x ≠ QUOTE := fun e => h (by simp [e])
    have ih' := ih (fun hb => h (by simp [hb]))
    by_cases hb : x = BSLASH
    · subst hb
      simp [escV, quotedBody_bslash hx, ih']
    · simp [escV, hb, quotedBody_plain hx hb, ih']

theorem wordTail_word {w : Bytes} (hw : ∀ b ∈ w, isWordChar b = true) {c : UInt8} (hc : isWordChar c = false)
    (r : Bytes) : wordTail (w ++ c :: r) = (w, c :: r) := by
  induction w with
  | nil => simp [wordTail, hc]
  | cons x xs ih =>
    have hx := hw x (by simp)
    simp [wordTail, hx, ih (fun b hb => hw b (by simp [hb]))]

theorem expectWord_name {n : Bytes} (hn : isWord n = true) (r : Bytes) :
    expectWord (n ++ SPACE :: r) = some (n, stripLeft r) := by
  cases n with
  | nil => simp [isWord] at hn
  | cons b bs =>
    simp only [isWord, Bool.and_eq_true, List.all_eq_true] at hn
    have hs : isWordChar SPACE = false := by decide
    simp [expectWord, hn.1, wordTail_word hn.2 hs, stripLeft_space]

theorem expectQuoted_escV {v : Bytes} (h : QUOTE ∉ v) (k : Bytes) :
    expectQuoted (QUOTE :: escV v ++ QUOTE :: k) = some (v, stripLeft k) := by
  simp [expectQuoted, quotedBody_escV h]

theorem str_contains_sp : str "contains " = [99, 111, 110, 116, 97, 105, 110, 115, 32] := by decide +kernel
theorem asStr_equal : Operator.asStr .equal = [61, 61] := by decide
theorem asStr_notEqual : Operator.asStr .notEqual = [33, 61] := by decide
theorem asStr_contain : Operator.asStr .contain = [99, 111, 110, 116, 97, 105, 110, 115] := by decide +kernel
theorem asStr_matches : Operator.asStr .matches = [61, 126] := by decide
theorem asStr_notMatch : Operator.asStr .notMatch = [33, 126] := by decide

theorem parseStringFilter_op (op : Operator) {v : Bytes} (h : QUOTE ∉ v) (k : Bytes) :
    parseStringFilter (op.asStr ++ SPACE :: QUOTE :: escV v ++ QUOTE :: k) = some (specOp op, v, stripLeft k) := by
  have hq : isWs QUOTE = false := by decide
  have e := expectQuoted_escV h k
  simp only [List.cons_append] at e
  -- `toLower SPACE` as `simp` leaves it (`toLower`, `isUpper` are in the set below); the case `contain` needs it
  have hs : (if (65 : UInt8) ≤ SPACE ∧ SPACE ≤ 90 then SPACE + 32 else SPACE) = 32 := by decide
  cases op
  -- the operator is stripped by comparing its bytes, then the value is read by `expectQuoted_escV` (`e`)
  all_goals
    simp [parseStringFilter, hs, str_contains_sp, asStr_equal, asStr_notEqual, asStr_contain, asStr_matches,
      asStr_notMatch, afterPrefixCI, toLower, isUpper, op2, BANG, EQUALS, TILDE, stripLeft_space,
      stripLeft_nonws hq, e, specOp]

theorem parseExpr_nested (fuel : Nat) {s1 s3 s4 : Bytes} {first : Expr} {c : UInt8}
    (h1 : parseExpr fuel (LP :: s1) = some (first, c :: s3)) (hc : c ≠ RP)
    (h2 : expectWord (c :: s3) = some (AND, s4)) :
    parseExpr (fuel + 1) (LP :: LP :: s1) = andLoop (parseExpr fuel) (s4.length + 1) [first] s4 := by
  have h : isWs LP = false := by decide
  rw [parseExpr]
  simp [stripLeft_nonws h, h1, hc, h2]

theorem parseExpr_not (fuel : Nat) {s2 s4 : Bytes} {e : Expr}
    (h1 : parseExpr fuel (LP :: s2) = some (e, RP :: s4)) :
    parseExpr (fuel + 1) (LP :: BANG :: LP :: s2) = some (.not e, stripLeft s4) := by
  have h : isWs LP = false := by decide
  have h' : isWs BANG = false := by decide
  have h2 : (BANG == LP) = false := by decide
  rw [parseExpr]
  simp [stripLeft_nonws h, stripLeft_nonws h', h2, h1]

theorem isAlpha_facts {b : UInt8} (hb : isAlpha b = true) :
    isWs b = false ∧ (b == LP) = false ∧ (b == BANG) = false := by
  refine ⟨?_, ?_, ?_⟩
  · simp only [isAlpha, isUpper, isLower, Bool.or_eq_true, Bool.and_eq_true, decide_eq_true_eq] at hb
    simp only [isWs, Bool.and_eq_false_iff, bne_eq_false_iff_eq, decide_eq_false_iff_not]
    right
    rcases hb with hb | hb
    · exact fun h => absurd (UInt8.le_trans hb.1 h) (by decide)
    · exact fun h => absurd (UInt8.le_trans hb.1 h) (by decide)
  · apply beq_false_of_ne; rintro rfl; revert hb; decide
  · apply beq_false_of_ne; rintro rfl; revert hb; decide

theorem parseExpr_tag (fuel : Nat) {b : UInt8} (hb : isAlpha b = true) {s1 s2 s4 w v : Bytes} {op : Op}
    (h1 : expectWord (b :: s1) = some (w, s2)) (hs : isSpecialType w = false)
    (h2 : parseStringFilter s2 = some (op, v, RP :: s4)) :
    parseExpr (fuel + 1) (LP :: b :: s1) = some (.tag w op v, stripLeft s4) := by
  obtain ⟨f1, f2, f3⟩ := isAlpha_facts hb
  rw [parseExpr]
  simp [stripLeft_nonws f1, f2, f3, h1, hs, h2]

theorem andLoop_last {pe : Bytes → Option (Expr × Bytes)} {t s2 : Bytes} {e : Expr}
    (h1 : pe (LP :: t) = some (e, RP :: s2)) (n : Nat) (acc : List Expr) :
    andLoop pe (n + 1) acc (LP :: t) = some (.and (acc ++ [e]), stripLeft s2) := by
  rw [andLoop]
  simp [h1]

theorem andLoop_more {pe : Bytes → Option (Expr × Bytes)} {t s2 s3 : Bytes} {e : Expr} {c : UInt8}
    (h1 : pe (LP :: t) = some (e, c :: s2)) (hc : c ≠ RP) (h2 : expectWord (c :: s2) = some (AND, s3))
    (n : Nat) (acc : List Expr) :
    andLoop pe (n + 1) acc (LP :: t) = andLoop pe n (acc ++ [e]) s3 := by
  rw [andLoop]
  simp [h1, hc, h2]

/-- the texts below spell `AND` as `65 :: 78 :: 68`: `stripLeft` and `expectWord` go by the head byte of a `::` -/
theorem AND_eq : AND = [65, 78, 68] := by decide

/-- an operand followed by ` AND (`: the operand is read, `StripLeft` stops at the `A`, and `ExpectWord` then
reads `AND` up to the next `(` -/
theorem operand_then_AND {pe : Bytes → Option (Expr × Bytes)} {t0 : Bytes} {e0 : Expr}
    (h0 : ∀ k', pe (LP :: t0 ++ k') = some (e0, stripLeft k')) (Y : Bytes) :
    pe (LP :: (t0 ++ SPACE :: 65 :: 78 :: 68 :: SPACE :: LP :: Y)) = some (e0, 65 :: 78 :: 68 :: SPACE :: LP :: Y) ∧
      expectWord (65 :: 78 :: 68 :: SPACE :: LP :: Y) = some (AND, LP :: Y) := by
  have hA : isWs 65 = false := by decide
  have hLP : isWs LP = false := by decide
  constructor
  · have := h0 (SPACE :: 65 :: 78 :: 68 :: SPACE :: LP :: Y)
    rwa [stripLeft_space, stripLeft_nonws hA, List.cons_append] at this
  · have := expectWord_name (by decide : isWord AND = true) (LP :: Y)
    rwa [stripLeft_nonws hLP, AND_eq] at this

/-- the `AND` loop on the rest of a rendered conjunction: `LP :: t0`, read as `e0`, is the operand under
the cursor, `fs` the operands still to come -/
theorem andLoop_inner {pe : Bytes → Option (Expr × Bytes)} (fs : List FilterType)
    (h : ∀ f ∈ fs, ∀ k, pe (inner f ++ k) = some (mirror f, stripLeft k)) :
    ∀ (n : Nat) (acc : List Expr) (e0 : Expr) (t0 k : Bytes),
      (∀ k', pe (LP :: t0 ++ k') = some (e0, stripLeft k')) → (innerAnd fs false).length < n →
      andLoop pe n acc (LP :: t0 ++ innerAnd fs false ++ RP :: k) =
        some (.and (acc ++ e0 :: fs.map mirror), stripLeft k) := by
  have hrp : isWs RP = false := by decide
  induction fs with
  | nil =>
    intro n acc e0 t0 k h0 hn
    obtain ⟨n, rfl⟩ := Nat.exists_eq_add_one_of_ne_zero (Nat.ne_zero_of_lt hn)
    have := h0 (RP :: k)
    rw [stripLeft_nonws hrp] at this
    simp only [innerAnd, List.append_nil, List.map_nil]
    exact andLoop_last this n acc
  | cons f fs ih =>
    intro n acc e0 t0 k h0 hn
    obtain ⟨n, rfl⟩ := Nat.exists_eq_add_one_of_ne_zero (Nat.ne_zero_of_lt hn)
    obtain ⟨t, ht⟩ := inner_cons f
    obtain ⟨h1, h2⟩ := operand_then_AND h0 (t ++ innerAnd fs false ++ RP :: k)
    have e1 : LP :: t0 ++ innerAnd (f :: fs) false ++ RP :: k =
        LP :: (t0 ++ SPACE :: 65 :: 78 :: 68 :: SPACE :: LP :: (t ++ innerAnd fs false ++ RP :: k)) := by
      simp [innerAnd, AND_eq, ht]
    rw [e1, andLoop_more h1 (by decide) h2 n acc]
    have hrec := ih (fun g hg => h g (by simp [hg])) n (acc ++ [e0]) (mirror f) t k
      (fun k' => by rw [← ht]; exact h f (by simp) k') (by simp [innerAnd] at hn; omega)
    simpa using hrec

theorem asStr_cons (op : Operator) : ∃ c t, op.asStr = c :: t ∧ isWs c = false := by
  cases op
  · exact ⟨_, _, asStr_equal, by decide⟩
  · exact ⟨_, _, asStr_notEqual, by decide⟩
  · exact ⟨_, _, asStr_contain, by decide⟩
  · exact ⟨_, _, asStr_matches, by decide⟩
  · exact ⟨_, _, asStr_notMatch, by decide⟩

theorem parseExpr_leaf (t : Tag) (op : Operator) {v : Bytes} (hw : isWordTag t.name = true) (hq : QUOTE ∉ v)
    (fuel : Nat) (k : Bytes) :
    parseExpr (fuel + 1) (inner (.tag t op v) ++ k) = some (.tag t.name (specOp op) v, stripLeft k) := by
  have hrp : isWs RP = false := by decide
  simp only [isWordTag, Bool.and_eq_true, Bool.not_eq_true'] at hw
  obtain ⟨hword, hspecial⟩ := hw
  obtain ⟨c, ct, hop, hc⟩ := asStr_cons op
  cases hn : t.name with
  | nil => simp [hn, isWord] at hword
  | cons b bs =>
    have hb : isAlpha b = true := by simp [hn, isWord] at hword; exact hword.1
    have h1 := expectWord_name hword (op.asStr ++ SPACE :: QUOTE :: escV v ++ QUOTE :: RP :: k)
    have hR : stripLeft (op.asStr ++ SPACE :: QUOTE :: escV v ++ QUOTE :: RP :: k) =
        op.asStr ++ SPACE :: QUOTE :: escV v ++ QUOTE :: RP :: k := by
      rw [hop, List.cons_append]; exact stripLeft_nonws hc _
    rw [hn, hR, List.cons_append] at h1
    have h2 := parseStringFilter_op op hq (RP :: k)
    rw [stripLeft_nonws hrp] at h2
    have h3 := parseExpr_tag fuel hb h1 (by rw [isSpecialType, ← hn]; exact hspecial) h2
    simp only [inner, hn]
    simpa using h3

/-- a rendering begins with `(`, so fuel that covers it is not zero -/
theorem fuel_succ {f : FilterType} {fuel : Nat} (h : (inner f).length ≤ fuel) : ∃ m, fuel = m + 1 := by
  obtain ⟨t, ht⟩ := inner_cons f
  rw [ht, List.length_cons] at h
  exact Nat.exists_eq_add_one_of_ne_zero (Nat.ne_zero_of_lt h)

theorem parseExpr_inner : ∀ (f : FilterType) (fuel : Nat) (k : Bytes),
    wf f = true → wordTags f = true → K2 f = false → (inner f).length ≤ fuel →
    parseExpr fuel (inner f ++ k) = some (mirror f, stripLeft k) := by
  have hrp : isWs RP = false := by decide
  intro f
  induction f using FilterType.induct with
  | tag t op v =>
    intro fuel k _ hw hk hfuel
    obtain ⟨fuel, rfl⟩ := fuel_succ hfuel
    exact parseExpr_leaf t op (by simpa [wordTags, leaves] using hw) (by simpa [K2, leaves] using hk) fuel k
  | not f ih =>
    intro fuel k hwf hw hk hfuel
    obtain ⟨fuel, rfl⟩ := fuel_succ hfuel
    simp only [inner, List.length_cons, List.length_append] at hfuel
    obtain ⟨t, ht⟩ := inner_cons f
    -- `wf`, `leaves` (so `wordTags`, `K2`) of `.not f` are by definition those of `f`
    have h1 := ih fuel (RP :: k) hwf hw hk (by omega)
    rw [stripLeft_nonws hrp, ht, List.cons_append] at h1
    have h2 := parseExpr_not fuel h1
    rw [inner, mirror, ht]
    simpa using h2
  | and fs ih =>
    intro fuel k hwf hw hk hfuel
    obtain ⟨fuel, rfl⟩ := fuel_succ hfuel
    simp only [inner, List.length_cons, List.length_append] at hfuel
    simp only [wf, Bool.and_eq_true, decide_eq_true_eq, wfList_iff] at hwf
    rw [wordTags_and] at hw
    rw [K2_and] at hk
    have hlen : (innerAnd fs true).length ≤ fuel := by omega
    have hall : ∀ f ∈ fs, ∀ k, parseExpr fuel (inner f ++ k) = some (mirror f, stripLeft k) := fun f hf k =>
      ih f hf fuel k (hwf.2 f hf).1 (hw f hf) (hk f hf) (Nat.le_trans (inner_le_innerAnd hf true) hlen)
    -- `wf`: an `And` node has at least two children
    obtain ⟨f1, f2, rest, rfl⟩ : ∃ f1 f2 rest, fs = f1 :: f2 :: rest := by
      rcases fs with _ | ⟨f1, _ | ⟨f2, rest⟩⟩
      · exact absurd hwf.1 (by simp)
      · exact absurd hwf.1 (by simp)
      · exact ⟨f1, f2, rest, rfl⟩
    obtain ⟨t1, ht1⟩ := inner_cons f1
    obtain ⟨t2, ht2⟩ := inner_cons f2
    obtain ⟨h1, h2⟩ := operand_then_AND (pe := parseExpr fuel) (t0 := t1) (e0 := mirror f1)
      (fun k' => by rw [← ht1]; exact hall f1 (by simp) k') (t2 ++ innerAnd rest false ++ RP :: k)
    have e1 : inner (.and (f1 :: f2 :: rest)) ++ k =
        LP :: LP :: (t1 ++ SPACE :: 65 :: 78 :: 68 :: SPACE :: LP :: (t2 ++ innerAnd rest false ++ RP :: k)) := by
      simp [inner, innerAnd, ht1, ht2, AND_eq]
    rw [e1, parseExpr_nested fuel h1 (by decide) h2]
    have hloop := andLoop_inner (pe := parseExpr fuel) rest (fun g hg => hall g (by simp [hg]))
      ((LP :: (t2 ++ innerAnd rest false ++ RP :: k)).length + 1) [mirror f1] (mirror f2) t2 k
      (fun k' => by rw [← ht2]; exact hall f2 (by simp) k')
      (by simp; omega)
    simp only [mirror, mirrorList, mirrorList_eq_map]
    simpa using hloop

theorem parseFilterTop_inner (f : FilterType) (hwf : wf f = true) (hw : wordTags f = true) (hk : K2 f = false)
    (hn : hasForbidden f = false) : parseFilterTop (inner f) = some (mirror f) := by
  obtain ⟨t, ht⟩ := inner_cons f
  have hp := parseExpr_inner f ((inner f).length + 1) [] hwf hw hk (by omega)
  rw [List.append_nil] at hp
  have hs : Spec.Filter.stripLeft [] = [] := rfl
  simp only [parseFilterTop, TokL.cstr_of_no_nul _ (clean_inner hw hk hn).2, hp, hs]
  simp [ht]

end parser

end Mpd.Filter

namespace Mpd.CmdsL
open Mpd.Filter Mpd.TokL

theorem Enc.ofQuoted {e : Bytes} (h : Clean e) : Enc (QUOTE :: esc1 e ++ [QUOTE]) e := by
  have hr := Reads.quoted (fun b => b == BSLASH || b == QUOTE) (by decide) (by decide) h.2
  rw [← esc1_eq_flatMap] at hr
  exact Enc.of_reads hr ((clean_quoted _).mpr ((clean_esc1_iff e).mpr h))

end Mpd.CmdsL
