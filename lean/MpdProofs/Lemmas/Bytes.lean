import Mpd.Basic
namespace Mpd

/-- `str` of a literal, without evaluating `String.toList`. The kernel evaluates `str "…"` through the byte-array
representation of `String`, at a cost that grows with the square of the literal's length; `rw [str_ofList]` (the
literal unfolds to `String.ofList` of its characters) in front of `decide +kernel` avoids that: in thousands of
heartbeats a `rw` costs 10–30, an unevaluated literal 40 at 3 characters, 150 at 8, 270 at 12, 1500 at 50. The same evaluation happens in the
elaborator when `subst` or an `rfl` pattern meets `h : k = str "…"`: name the equation instead. -/
theorem str_ofList (l : List Char) : str (String.ofList l) = l.map fun c => c.toNat.toUInt8 := by
  rw [str, String.toList_ofList]

/-- brings a statement about all bytes into the form `decide` can evaluate -/
theorem forall_uint8 (P : UInt8 → Prop) (h : ∀ n, n < 256 → P (UInt8.ofNat n)) : ∀ a, P a := by
  intro a
  have := h a.toNat a.toNat_lt
  simpa using this

theorem isLower_of_isUpper {b : UInt8} (h : isUpper b = true) : isLower (b + 32) = true := by
  simp only [isUpper, isLower, Bool.and_eq_true, decide_eq_true_eq, UInt8.le_iff_toNat_le, UInt8.toNat_add,
    UInt8.reduceToNat] at *
  omega

/-- `eq_ignore_ascii_case` compares the lower-cased strings; that it is an equivalence follows -/
theorem eqIgnoreCase_iff (a b : Bytes) : eqIgnoreCase a b = true ↔ a.map toLower = b.map toLower := by
  induction a generalizing b with
  | nil => cases b <;> simp [eqIgnoreCase]
  | cons x xs ih =>
    cases b with
    | nil => simp [eqIgnoreCase]
    | cons y ys => simp [eqIgnoreCase, ih]

theorem eqIgnoreCase_refl (a : Bytes) : eqIgnoreCase a a = true := (eqIgnoreCase_iff a a).mpr rfl

theorem eqIgnoreCase_symm (a b : Bytes) : eqIgnoreCase a b = eqIgnoreCase b a := by
  rw [Bool.eq_iff_iff, eqIgnoreCase_iff, eqIgnoreCase_iff]
  exact eq_comm

theorem eqIgnoreCase_trans (a b c : Bytes) :
    eqIgnoreCase a b = true → eqIgnoreCase b c = true → eqIgnoreCase a c = true := by
  simp only [eqIgnoreCase_iff]
  exact Eq.trans

theorem eqIgnoreCase_of_eq {a b : Bytes} (h : a = b) : eqIgnoreCase a b = true := h ▸ eqIgnoreCase_refl a

/-- `cmpBytes` is the three-way comparison of the library's lexicographic `<` on lists, a linear order
over `UInt8`: the order facts below are the library's -/
theorem cmpBytes_eq (a b : Bytes) : cmpBytes a b = if a < b then -1 else if a = b then 0 else 1 := by
  induction a generalizing b with
  | nil => cases b <;> simp [cmpBytes]
  | cons x xs ih =>
    cases b with
    | nil => simp [cmpBytes]
    | cons y ys =>
      simp only [cmpBytes, ih, List.cons_lt_cons_iff, List.cons.injEq]
      by_cases hxy : x < y
      · simp [hxy]
      · by_cases hyx : y < x
        · simp [hxy, hyx, UInt8.ne_of_lt hyx |>.symm]
        · obtain rfl : x = y := UInt8.le_antisymm (UInt8.not_lt.mp hyx) (UInt8.not_lt.mp hxy)
          simp [hxy]

theorem cmpBytes_eq_neg_one_iff (a b : Bytes) : cmpBytes a b = -1 ↔ a < b := by
  rw [cmpBytes_eq]
  split
  · simp [*]
  · split <;> simp [*]

theorem cmpBytes_lt_iff (a b : Bytes) : cmpBytes a b < 0 ↔ a < b := by
  rw [cmpBytes_eq]
  split
  · simp [*]
  · split <;> simp [*]

theorem cmpBytes_eq_zero_iff (a b : Bytes) : cmpBytes a b = 0 ↔ a = b := by
  rw [cmpBytes_eq]
  split
  · simp [Std.ne_of_lt ‹a < b›]
  · split <;> simp [*]

theorem cmpBytes_antisymm (a b : Bytes) : cmpBytes a b = -cmpBytes b a := by
  rw [cmpBytes_eq, cmpBytes_eq]
  by_cases h : a < b
  · simp [h, List.lt_asymm h, (Std.ne_of_lt h).symm]
  · by_cases e : a = b
    · simp [e, List.lt_irrefl]
    · simp [h, e, Std.lt_of_le_of_ne (List.not_lt.mp h) (Ne.symm e)]

theorem cmpBytes_trans (a b c : Bytes) : cmpBytes a b = -1 → cmpBytes b c = -1 → cmpBytes a c = -1 := by
  simp only [cmpBytes_eq_neg_one_iff]
  exact List.lt_trans

theorem cmpBytes_lt_irrefl (a : Bytes) : ¬ cmpBytes a a < 0 := by
  rw [cmpBytes_lt_iff]; exact List.lt_irrefl a

theorem cmpBytes_lt_trans {a b c : Bytes} (h1 : cmpBytes a b < 0) (h2 : cmpBytes b c < 0) : cmpBytes a c < 0 := by
  rw [cmpBytes_lt_iff] at *
  exact List.lt_trans h1 h2

theorem cmpBytes_lt_of_not_lt_ne {a b : Bytes} (h1 : ¬ cmpBytes a b < 0) (h2 : a ≠ b) : cmpBytes b a < 0 := by
  rw [cmpBytes_lt_iff] at *
  exact Std.lt_of_le_of_ne (List.not_lt.mp h1) (Ne.symm h2)

theorem foldl_digits (m : Bytes) : ∀ a : Nat,
    m.foldl (fun a b => a * 10 + (b.toNat - 48)) a = a * 10 ^ m.length + m.foldl (fun a b => a * 10 + (b.toNat - 48)) 0 := by
  induction m with
  | nil => intro a; simp
  | cons b t ih =>
    intro a
    simp only [List.foldl_cons, List.length_cons]
    rw [ih (a * 10 + (b.toNat - 48)), ih (0 * 10 + (b.toNat - 48))]
    simp only [Nat.zero_mul, Nat.zero_add, Nat.pow_succ, Nat.add_mul]
    rw [Nat.mul_assoc, Nat.mul_comm (10 ^ t.length) 10, Nat.add_assoc]

theorem digitsVal_append (l m : Bytes) : digitsVal (l ++ m) = digitsVal l * 10 ^ m.length + digitsVal m := by
  simp only [digitsVal, List.foldl_append]
  exact foldl_digits m _

theorem isDigit_ofNat : ∀ k, k < 10 → isDigit (UInt8.ofNat (48 + k)) = true := by decide

theorem toNat_ofNat_digit : ∀ k, k < 10 → (UInt8.ofNat (48 + k)).toNat - 48 = k := by decide

theorem natToDecFuel_lt (f : Nat) {n : Nat} (h : n < 10) : natToDecFuel (f + 1) n = [UInt8.ofNat (48 + n)] := by
  simp [natToDecFuel, h]

theorem natToDecFuel_ge (f : Nat) {n : Nat} (h : ¬ n < 10) :
    natToDecFuel (f + 1) n = natToDecFuel f (n / 10) ++ [UInt8.ofNat (48 + n % 10)] := by
  simp [natToDecFuel, h]

theorem digit_spec {n : Nat} (h : n < 10) :
    [UInt8.ofNat (48 + n)] ≠ [] ∧ [UInt8.ofNat (48 + n)].all isDigit = true ∧ digitsVal [UInt8.ofNat (48 + n)] = n := by
  refine ⟨List.cons_ne_nil _ _, ?_, ?_⟩
  · rw [List.all_cons, List.all_nil, Bool.and_true]
    exact isDigit_ofNat n h
  · rw [digitsVal, List.foldl_cons, List.foldl_nil, toNat_ofNat_digit n h]
    omega

theorem natToDecFuel_spec (f n : Nat) (h : n < 10 ^ (f + 1)) :
    natToDecFuel (f + 1) n ≠ [] ∧ (natToDecFuel (f + 1) n).all isDigit = true ∧
      digitsVal (natToDecFuel (f + 1) n) = n := by
  induction f generalizing n with
  | zero =>
    have hn : n < 10 := by simpa using h
    rw [natToDecFuel_lt 0 hn]
    exact digit_spec hn
  | succ f ih =>
    by_cases hn : n < 10
    · rw [natToDecFuel_lt _ hn]
      exact digit_spec hn
    · rw [natToDecFuel_ge _ hn]
      have hdiv : n / 10 < 10 ^ (f + 1) := by
        rw [Nat.pow_succ, Nat.mul_comm] at h
        exact Nat.div_lt_of_lt_mul h
      obtain ⟨_, h2, h3⟩ := ih (n / 10) hdiv
      have hm : n % 10 < 10 := Nat.mod_lt _ (by decide)
      refine ⟨by simp, ?_, ?_⟩
      · rw [List.all_append, h2, Bool.true_and]
        exact (digit_spec hm).2.1
      · rw [digitsVal_append, h3, (digit_spec hm).2.2, List.length_singleton, Nat.pow_one]
        exact Nat.div_add_mod' n 10

theorem natToDec_spec (n : Nat) :
    natToDec n ≠ [] ∧ (natToDec n).all isDigit = true ∧ digitsVal (natToDec n) = n :=
  natToDecFuel_spec n n (Nat.lt_trans n.lt_succ_self (Nat.lt_pow_self (by decide)))

/-- a number with `k + 1` decimal digits is rendered with `k + 1` bytes -/
theorem natToDecFuel_length (k : Nat) : ∀ f n, k < f → n < 10 ^ (k + 1) → (k = 0 ∨ 10 ^ k ≤ n) →
    (natToDecFuel f n).length = k + 1 := by
  induction k with
  | zero =>
    intro f n hf hn _
    obtain ⟨f, rfl⟩ := Nat.exists_eq_add_one_of_ne_zero (Nat.ne_zero_of_lt hf)
    rw [natToDecFuel_lt f (by simpa using hn)]
    rfl
  | succ k ih =>
    intro f n hf hn hlo
    obtain ⟨f, rfl⟩ := Nat.exists_eq_add_one_of_ne_zero (Nat.ne_zero_of_lt hf)
    have hlo' : 10 ^ (k + 1) ≤ n := hlo.resolve_left (Nat.succ_ne_zero k)
    have h10 : ¬ n < 10 := by
      have : 10 ≤ 10 ^ (k + 1) := by rw [Nat.pow_succ]; exact Nat.le_mul_of_pos_left _ (Nat.pow_pos (by decide))
      exact Nat.not_lt.mpr (Nat.le_trans this hlo')
    have h1 : n / 10 < 10 ^ (k + 1) := by
      rw [Nat.div_lt_iff_lt_mul (by decide)]; rw [Nat.pow_succ] at hn; exact hn
    have h2 : k = 0 ∨ 10 ^ k ≤ n / 10 := by
      right; rw [Nat.le_div_iff_mul_le (by decide)]; rw [Nat.pow_succ] at hlo'; exact hlo'
    rw [natToDecFuel_ge f h10, List.length_append, ih f (n / 10) (Nat.lt_of_succ_lt_succ hf) h1 h2]
    rfl

theorem natToDec_length (n k : Nat) (hn : n < 10 ^ (k + 1)) (hlo : k = 0 ∨ 10 ^ k ≤ n) :
    (natToDec n).length = k + 1 :=
  natToDecFuel_length k (n + 1) n (by
    rcases hlo with rfl | hlo
    · omega
    · have : k < 10 ^ k := Nat.lt_pow_self (by decide)
      omega) hn hlo

theorem natToDec_length_le (n k : Nat) (hn : n < 10 ^ k) (hk : 1 ≤ k) : (natToDec n).length ≤ k := by
  induction k with
  | zero => omega
  | succ k ih =>
    by_cases hlo : k = 0 ∨ 10 ^ k ≤ n
    · exact Nat.le_of_eq (natToDec_length n k hn hlo)
    · have := ih (by omega) (by omega)
      omega

theorem takeWhile_digits (ds rest : Bytes) (h : ds.all isDigit = true) (hr : ∀ b t, rest = b :: t → isDigit b = false) :
    (ds ++ rest).takeWhile isDigit = ds ∧ (ds ++ rest).dropWhile isDigit = rest := by
  rw [List.takeWhile_append_of_pos (List.all_eq_true.mp h), List.dropWhile_append_of_pos (List.all_eq_true.mp h)]
  cases rest with
  | nil => simp
  | cons b t => simp [hr b t rfl]

end Mpd
