import Mpd.F64
/-!
# The binary64 emulation (`Mpd/F64.lean`): what both directions rest on

Round-half-even division `rhe` is within one half of the quotient (`rhe_err`) and is the only integer
strictly within one half (`rhe_unique`); one binary64 rounding of a small rational is `rhe` on a binary grid
(`round64_small`).
-/
namespace Mpd.F64

theorem rhe_eq_div_add (a b : Nat) :
    ∃ c, rhe a b = a / b + c ∧ (c = 0 ∧ 2 * (a % b) ≤ b ∨ c = 1 ∧ b ≤ 2 * (a % b)) := by
  unfold rhe
  simp only []
  -- `if_pos` / `if_neg` by hand: `split` on this goal is four times as dear
  by_cases h1 : 2 * (a % b) < b
  · rw [if_pos h1]
    exact ⟨0, rfl, .inl ⟨rfl, Nat.le_of_lt h1⟩⟩
  rw [if_neg h1]
  by_cases h2 : 2 * (a % b) > b
  · rw [if_pos h2]
    exact ⟨1, rfl, .inr ⟨rfl, Nat.le_of_lt h2⟩⟩
  rw [if_neg h2]
  have he : 2 * (a % b) = b := Nat.le_antisymm (Nat.le_of_not_lt h2) (Nat.le_of_not_lt h1)
  by_cases h3 : a / b % 2 = 0
  · rw [if_pos h3]
    exact ⟨0, rfl, .inl ⟨rfl, Nat.le_of_eq he⟩⟩
  · rw [if_neg h3]
    exact ⟨1, rfl, .inr ⟨rfl, Nat.le_of_eq he.symm⟩⟩

theorem rhe_err (a b : Nat) (hb : 0 < b) :
    2 * (rhe a b * b) ≤ 2 * a + b ∧ 2 * a ≤ 2 * (rhe a b * b) + b := by
  obtain ⟨c, hc, h⟩ := rhe_eq_div_add a b
  have ha : a / b * b + a % b = a := by rw [Nat.mul_comm]; exact Nat.div_add_mod a b
  have hr := Nat.mod_lt a hb
  rw [hc, Nat.add_mul]
  rcases h with ⟨rfl, h⟩ | ⟨rfl, h⟩
  · omega
  · omega

/-- an error bound `|x − N·k/D| ≤ 1/2` carried over to another fraction `m/S = N/D` of the same value -/
theorem rescale {x D N k S m : Nat} (hD : 0 < D) (hNS : N * S = m * D)
    (h : 2 * (x * D) ≤ 2 * (N * k) + D ∧ 2 * (N * k) ≤ 2 * (x * D) + D) :
    2 * (x * S) ≤ 2 * (m * k) + S ∧ 2 * (m * k) ≤ 2 * (x * S) + S := by
  -- multiply by `S`, replace `N * k * S` by `m * k * D`, cancel `D`
  have e0 : 2 * (N * k) * S = 2 * (m * k) * D := by
    rw [Nat.mul_assoc, Nat.mul_right_comm N, hNS, Nat.mul_right_comm m, ← Nat.mul_assoc]
  have e1 : 2 * (x * D) * S = 2 * (x * S) * D := by
    rw [Nat.mul_assoc, Nat.mul_right_comm x, ← Nat.mul_assoc]
  have h1 := Nat.mul_le_mul_right S h.1
  have h2 := Nat.mul_le_mul_right S h.2
  rw [Nat.add_mul, e0, e1, Nat.mul_comm D S, ← Nat.add_mul] at h1 h2
  exact ⟨Nat.le_of_mul_le_mul_right h1 hD, Nat.le_of_mul_le_mul_right h2 hD⟩

theorem rhe_of_frac {a b m P : Nat} (N : Nat) (hb : 0 < b) (hv : a * P = m * b)
    (h1 : 2 * m < 2 * (N * P) + P) (h2 : 2 * (N * P) < 2 * m + P) : rhe a b = N := by
  -- two integers within one half of `a/b = m/P`, one of them strictly: they differ by less than one
  obtain ⟨e1, e2⟩ := rescale (k := 1) hb hv (by rw [Nat.mul_one]; exact rhe_err a b hb)
  have hlt : rhe a b * P < (N + 1) * P := by rw [Nat.succ_mul]; omega
  have hgt : N * P < (rhe a b + 1) * P := by rw [Nat.succ_mul]; omega
  have := Nat.lt_of_mul_lt_mul_right hlt
  have := Nat.lt_of_mul_lt_mul_right hgt
  omega

theorem rhe_unique (a b N : Nat) (hb : 0 < b) (h1 : 2 * a < 2 * (N * b) + b) (h2 : 2 * (N * b) < 2 * a + b) :
    rhe a b = N :=
  rhe_of_frac N hb rfl h1 h2

theorem rhe_exact (N b : Nat) (hb : 0 < b) : rhe (N * b) b = N :=
  rhe_unique _ _ _ hb (by omega) (by omega)

theorem rhe_one (a : Nat) : rhe a 1 = a := by simpa using rhe_exact a 1 (by decide)

theorem pow2_pos (k : Nat) : 0 < pow2 k := Nat.two_pow_pos k

/-- the comparison `2^k ≤ n/d` used by `flog2` -/
def geF (n d : Nat) (k : Int) : Bool :=
  if k ≥ 0 then d * pow2 k.toNat ≤ n else d ≤ n * pow2 (-k).toNat

theorem flog2_cases (n d : Nat) :
    let k : Int := (Nat.log2 n : Int) - (Nat.log2 d : Int)
    (flog2 n d = k + 1 ∧ geF n d (k + 1) = true) ∨ (flog2 n d = k ∧ geF n d k = true) ∨ flog2 n d = k - 1 := by
  intro k
  have hdef : flog2 n d = if geF n d (k + 1) = true then k + 1 else if geF n d k = true then k else k - 1 := rfl
  rw [hdef]
  by_cases h1 : geF n d (k + 1) = true
  · simp [h1]
  · by_cases h2 : geF n d k = true <;> simp [h1, h2]

theorem flog2_upper (n d U : Nat) (hn : n ≠ 0) (h : n < 2 ^ U * d) : flog2 n d < U := by
  have key : ∀ k : Int, geF n d k = true → k < U := by
    intro k hk
    unfold geF at hk
    by_cases h0 : k ≥ 0
    · simp only [h0, if_true, decide_eq_true_eq] at hk
      have h1 : d * pow2 k.toNat < 2 ^ U * d := Nat.lt_of_le_of_lt hk h
      rw [Nat.mul_comm] at h1
      have h2 : pow2 k.toNat < 2 ^ U := Nat.lt_of_mul_lt_mul_right h1
      have h3 : k.toNat < U := (Nat.pow_lt_pow_iff_right (by decide)).mp h2
      omega
    · omega
  have hlog : (Nat.log2 n : Int) - Nat.log2 d - 1 < U := by
    have h1 : d < 2 ^ (Nat.log2 d + 1) := Nat.lt_log2_self
    have h2 : n < 2 ^ (U + (Nat.log2 d + 1)) := by
      rw [Nat.pow_add]
      exact Nat.lt_trans h (Nat.mul_lt_mul_of_pos_left h1 (Nat.two_pow_pos U))
    have h3 : Nat.log2 n < U + (Nat.log2 d + 1) := (Nat.log2_lt hn).mpr h2
    omega
  rcases flog2_cases n d with h | h | h
  · rw [h.1]; exact key _ h.2
  · rw [h.1]; exact key _ h.2
  · omega

theorem fin_neg (m K : Nat) : (Val.fin m (-(K : Int))).num * 2 ^ K = m * (Val.fin m (-(K : Int))).den := by
  cases K with
  | zero => simp [Val.num, Val.den, pow2]
  | succ K =>
    have h : ¬ (-((K + 1 : Nat) : Int) ≥ 0) := by omega
    have h2 : (-(-((K + 1 : Nat) : Int))).toNat = K + 1 := by omega
    simp only [Val.num, Val.den, h, if_false, h2, pow2]

theorem den_pos (v : Val) : 0 < v.den := by
  cases v with
  | inf => decide
  | fin m e => simp only [Val.den]; split <;> first | decide | exact pow2_pos _

/-- **one binary64 rounding** of `n/d < 2^U`, `U ≤ 53`: the result is finite with exponent `e ≤ 1` (so the
`e + 52 ≥ 64` overflow branch of `decodeDuration` is never taken), and for some `K ≥ 53 − U` its value is
`rhe (n·2^K) d / 2^K` (the working exponent is `-K`, clamped at `-1074`; renormalisation after a carry and
the zero case do not change the value) -/
theorem round64_small (n d U : Nat) (h : n < 2 ^ U * d) (hU : U ≤ 53) :
    ∃ K m e, 53 ≤ K + U ∧ e ≤ 1 ∧ round64 n d = .fin m e ∧
      (Val.fin m e).num * 2 ^ K = rhe (n * 2 ^ K) d * (Val.fin m e).den := by
  by_cases hn : n = 0
  · exact ⟨53, 0, 0, by omega, by omega, by simp [round64, hn], by simp [hn, rhe, Val.num]⟩
  have hl := flog2_upper n d U hn h
  obtain ⟨K, hK⟩ : ∃ K : Nat, max (flog2 n d - 52) (-1074) = -(K : Int) :=
    ⟨(-(max (flog2 n d - 52) (-1074))).toNat, by omega⟩
  have hK1 : 53 ≤ K + U := by omega
  have hs : (if -(K : Int) ≥ 0 then rhe n (d * 2 ^ (-(K : Int)).toNat) else rhe (n * 2 ^ (-(-(K : Int))).toNat) d)
      = rhe (n * 2 ^ K) d := by
    cases K with
    | zero => simp
    | succ K =>
      have h1 : ¬ (-((K + 1 : Nat) : Int) ≥ 0) := by omega
      have h2 : (-(-((K + 1 : Nat) : Int))).toNat = K + 1 := by omega
      simp only [h1, if_false, h2]
  refine ⟨K, ?_⟩
  unfold round64
  simp only [hn, if_false, hK, pow2, hs]
  generalize rhe (n * 2 ^ K) d = m
  by_cases hm : m = 2 ^ 53
  · have h3 : ¬ (-(K : Int) + 1 + 52 > 1023) := by omega
    refine ⟨2 ^ 52, -(K : Int) + 1, hK1, by omega, by simp [hm, h3], ?_⟩
    cases K with
    | zero => simp [hm, Val.num, Val.den, pow2]
    | succ K =>
      have he : -((K + 1 : Nat) : Int) + 1 = -(K : Int) := by omega
      rw [he, show (2 : Nat) ^ (K + 1) = 2 ^ K * 2 from Nat.pow_succ .., ← Nat.mul_assoc, fin_neg, hm]
      omega
  · by_cases h0 : m = 0
    · exact ⟨0, 0, hK1, by omega, by simp [h0], by simp [h0, Val.num]⟩
    · have h3 : ¬ (-(K : Int) + 52 > 1023) := by omega
      exact ⟨m, -(K : Int), hK1, by omega, by simp [hm, h0, h3], fin_neg m K⟩

/-- integers below 2^53 are binary64 values -/
theorem round64_exact (n : Nat) (h : n < 2 ^ 53) : (round64 n 1).num = n * (round64 n 1).den := by
  obtain ⟨K, m, e, -, -, hr, hv⟩ := round64_small n 1 53 (by omega) (by decide)
  rw [hr]
  rw [rhe_one] at hv
  exact Nat.eq_of_mul_eq_mul_right (Nat.two_pow_pos K) (by rw [hv]; ac_rfl)

end Mpd.F64
