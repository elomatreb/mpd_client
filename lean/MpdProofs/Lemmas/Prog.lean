import Mpd.Typed.Prog
import MpdProofs.Lemmas.AFrame
/-!
Field-extraction programs (`Mpd/Typed/Prog.lean`): a program that never asks for the same key twice
computes, on EVERY frame (duplicate keys included), the same outcome as looking each key up in the
untouched frame — `Frame::get` removing the field is unobservable (`Prog.run_eq_runF`).
-/
namespace Mpd

namespace Typed

/-- the program never reads a key in `S`, and never reads a key twice -/
inductive Fresh {α} : List Bytes → Prog α → Prop where
  | ret (S o) : Fresh S (.ret o)
  | get (S k c) : k ∉ S → (∀ v, Fresh (k :: S) (c v)) → Fresh S (.get k c)

/-- invariant: `f` answers every key outside `S` like `f0` (the keys in `S` have been taken out) -/
theorem Prog.run_eq_runF_aux {α} (p : Prog α) (S : List Bytes) (hf : Fresh S p) (f0 f : AFrame)
    (ha : ∀ k, k ∉ S → f.find k = f0.find k) : p.run f = p.runF f0.find := by
  induction hf generalizing f with
  | ret S o => rfl
  | get S k c hk _ ih =>
    simp only [Prog.run, Prog.runF]
    rw [AFrame.get_fst, ha k hk]
    refine ih _ _ fun k' hk' => ?_
    rw [List.mem_cons, not_or] at hk'
    rw [AFrame.find_get_ne f k' k hk'.1]
    exact ha k' hk'.2

theorem Prog.run_eq_runF {α} (p : Prog α) (hf : Fresh [] p) (f : AFrame) : p.run f = p.runF f.find :=
  Prog.run_eq_runF_aux p [] hf f f fun _ _ => rfl

/-!
Every record decoder asks for a fixed sequence of keys, leaving some out on some paths, and ends in
a value or a typed error. `ReadsKeys ks p` says so for the key list `ks`; it follows the text of the
program combinator by combinator, without comparing keys. Pairwise distinctness of `ks` (one
evaluation per program) then gives `Fresh`, and `ReadsKeys` alone gives that no run panics. -/

inductive ReadsKeys {α} : List Bytes → Prog α → Prop where
  | ret (ks o) : o ≠ .panic → ReadsKeys ks (.ret o)
  | get (k ks c) : (∀ v, ReadsKeys ks (c v)) → ReadsKeys (k :: ks) (.get k c)
  | skip (k ks p) : ReadsKeys ks p → ReadsKeys (k :: ks) p

theorem ReadsKeys.terr {α} {ks} : ReadsKeys ks (.ret (.terr : Outcome α)) := .ret _ _ (by intro h; cases h)
theorem ReadsKeys.ok {α} {ks} (a : α) : ReadsKeys ks (.ret (.ok a)) := .ret _ _ (by intro h; cases h)

theorem ReadsKeys.fresh {α} {ks S} {p : Prog α} (h : ReadsKeys ks p) (hd : ks.Nodup) (hS : ∀ k ∈ ks, k ∉ S) :
    Fresh S p := by
  induction h generalizing S with
  | ret ks o _ => exact .ret _ _
  | get k ks c _ ih =>
    rw [List.nodup_cons] at hd
    refine .get _ _ _ (hS k (List.mem_cons_self ..)) fun v => ih v hd.2 fun k' hk' hm => ?_
    rcases List.mem_cons.mp hm with rfl | hm
    · exact hd.1 hk'
    · exact hS k' (List.mem_cons_of_mem _ hk') hm
  | skip k ks p _ ih => exact ih (List.nodup_cons.mp hd).2 fun k' hk' => hS k' (List.mem_cons_of_mem _ hk')

theorem ReadsKeys.run_eq_runF {α} {ks} {p : Prog α} (h : ReadsKeys ks p) (hd : ks.Nodup) (f : AFrame) :
    p.run f = p.runF f.find :=
  Prog.run_eq_runF p (h.fresh hd fun _ _ hm => nomatch hm) f

theorem ReadsKeys.run_ne_panic {α} {ks} {p : Prog α} (h : ReadsKeys ks p) : ∀ f : AFrame, p.run f ≠ .panic := by
  induction h with
  | ret ks o ho => intro _; exact ho
  | get k ks c _ ih => intro f; exact ih _ _
  | skip k ks p _ ih => exact ih

theorem ReadsKeys.pOptional {α β} {ks} {conv : Bytes → Option α} {k} {c : Option α → Prog β}
    (hc : ∀ a, ReadsKeys ks (c a)) : ReadsKeys (k :: ks) (pOptional conv k c) := by
  refine .get _ _ _ fun v => ?_
  cases v with
  | none => exact hc none
  | some v => simp only []; cases conv v with
    | none => exact .terr
    | some a => exact hc _

/-- a required field is an optional one whose absence is an error -/
theorem pValue_eq_pOptional {α β} (conv : Bytes → Option α) (k : Bytes) (c : α → Prog β) :
    pValue conv k c = pOptional conv k fun | none => .ret .terr | some a => c a := rfl

theorem ReadsKeys.pValue {α β} {ks} {conv : Bytes → Option α} {k} {c : α → Prog β}
    (hc : ∀ a, ReadsKeys ks (c a)) : ReadsKeys (k :: ks) (pValue conv k c) :=
  pValue_eq_pOptional conv k c ▸ .pOptional fun o => match o with
    | none => .terr
    | some a => hc a

theorem ReadsKeys.pRaw {β} {ks} {k} {c : Option Bytes → Prog β} (hc : ∀ a, ReadsKeys ks (c a)) :
    ReadsKeys (k :: ks) (pRaw k c) := .get _ _ _ hc

theorem ReadsKeys.pSongIdentifier {β} {ks} {pk ik} {c : Option (Nat × Nat) → Prog β}
    (hc : ∀ a, ReadsKeys ks (c a)) : ReadsKeys (pk :: ik :: ks) (pSongIdentifier pk ik c) :=
  .pOptional fun o => match o with
    | none => .skip _ _ _ (hc none)
    | some _ => .pValue fun _ => hc _

theorem runF_ret {α} (o : Outcome α) (look) : (Prog.ret o).runF look = o := rfl
theorem runF_get {α} (k) (c : Option Bytes → Prog α) (look) :
    (Prog.get k c).runF look = (c (look k)).runF look := rfl

theorem runF_pRaw {β} (k) (c : Option Bytes → Prog β) (look) :
    (pRaw k c).runF look = (c (look k)).runF look := rfl

theorem runF_pOptional {α β} (conv : Bytes → Option α) (k) (c : Option α → Prog β) (look) :
    (pOptional conv k c).runF look =
      match look k with
      | none => (c none).runF look
      | some v => match conv v with
        | none => .terr
        | some a => (c (some a)).runF look := by
  unfold pOptional
  simp only [runF_get]
  cases look k with
  | none => rfl
  | some v => simp only []; cases conv v <;> rfl

theorem runF_pValue {α β} (conv : Bytes → Option α) (k) (c : α → Prog β) (look) :
    (pValue conv k c).runF look =
      match look k with
      | none => .terr
      | some v => match conv v with
        | none => .terr
        | some a => (c a).runF look := by
  rw [pValue_eq_pOptional, runF_pOptional]
  rfl

end Typed
end Mpd
