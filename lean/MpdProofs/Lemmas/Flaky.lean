import MpdProofs.Lemmas.Resume
import MpdProofs.Lemmas.Sticky
/-!
Any number of failed reads is invisible (async connection): a caller that calls `receive` again after every reported
read failure, anywhere in the stream, also several in a row. By `recvLoopA_append`, which holds for every script:
the statements compare with `recvLoopA` on the script without the failures, chunk for chunk, also when a read
delivers nothing.
-/
namespace Mpd.Conn
open Mpd.Builder

/-- a call that returns before it needed the end of the script does not depend on what comes later -/
theorem recvLoopA_prefix (k : Nat) (t2 : Term) (cs2 : List Bytes) (cs1 : List Bytes) (σ : BState) (buf : Bytes)
    (h : (recvLoopA σ buf cs1 (.ioerr k)).1 ≠ .io k) :
    recvLoopA σ buf (cs1 ++ cs2) t2 =
      ((recvLoopA σ buf cs1 (.ioerr k)).1, (recvLoopA σ buf cs1 (.ioerr k)).2.1,
       (recvLoopA σ buf cs1 (.ioerr k)).2.2.1 ++ cs2, (recvLoopA σ buf cs1 (.ioerr k)).2.2.2) :=
  (recvLoopA_append (rfl : recvLoopA σ buf cs1 (.ioerr k) = (_, _, _, _)) cs2 t2).trans (if_neg h)

theorem flatScript_nil (cs : List Bytes) : flatScript cs [] = cs := List.append_nil cs

theorem flatScript_cons (cs : List Bytes) (p : ScriptPiece) (more : List ScriptPiece) :
    flatScript cs (p :: more) = cs ++ flatScript p.1 more := by
  simp [flatScript]

theorem recvRetryA_nil {σ σ' : BState} {buf buf' : Bytes} {cs cs' : List Bytes} {t : Term} {it : Item}
    (h : recvLoopA σ buf cs t = (it, buf', cs', σ')) : recvRetryA σ buf cs t [] = (it, buf', σ', cs', t, []) := by
  rw [recvRetryA, h]

theorem recvRetryA_cons_io {σ σ' : BState} {buf buf' : Bytes} {cs cs' : List Bytes} {t : Term} {j : Nat}
    (h : recvLoopA σ buf cs t = (.io j, buf', cs', σ')) (p : ScriptPiece) (more : List ScriptPiece) :
    recvRetryA σ buf cs t (p :: more) = recvRetryA σ' buf' p.1 p.2 more := by
  rw [recvRetryA, h]

theorem recvRetryA_cons_other {σ σ' : BState} {buf buf' : Bytes} {cs cs' : List Bytes} {t : Term} {it : Item}
    (h : recvLoopA σ buf cs t = (it, buf', cs', σ')) (hit : ∀ j, it ≠ .io j) (p : ScriptPiece)
    (more : List ScriptPiece) : recvRetryA σ buf cs t (p :: more) = (it, buf', σ', cs', t, p :: more) := by
  rw [recvRetryA, h]
  cases it with
  | io j => exact absurd rfl (hit j)
  | _ => rfl

/-- **one logical receive, any number of failed reads**: it returns and leaves what one uninterrupted call on the
script without the failures returns and leaves -/
theorem recvRetryA_spec {more more' : List ScriptPiece} {σ σ' : BState} {buf buf' : Bytes} {cs cs' : List Bytes}
    {t t' : Term} {it : Item} (hio : IoChain t more)
    (h : recvRetryA σ buf cs t more = (it, buf', σ', cs', t', more')) :
    recvLoopA σ buf (flatScript cs more) (lastTerm t more) = (it, buf', flatScript cs' more', σ') ∧
    lastTerm t' more' = lastTerm t more ∧ IoChain t' more' := by
  fun_induction recvRetryA σ buf cs t more with
  | case1 σ buf cs t =>
    cases h
    exact ⟨by rw [flatScript_nil, flatScript_nil, lastTerm], rfl, hio⟩
  | case2 σ buf cs t p more j buf₁ cs₁ σ₁ hr ih =>
    -- the piece ends in the reported failure: the caller calls again
    obtain ⟨⟨k, rfl⟩, hio'⟩ := hio
    cases (recvLoopA_leaves hr).2 j rfl
    rw [flatScript_cons, lastTerm, recvLoopA_append hr, if_pos rfl]
    exact ih hio' h
  | case3 σ buf cs t p more it₁ buf₁ cs₁ σ₁ hit hr =>
    -- the call returned before the failure
    obtain ⟨⟨k, rfl⟩, hio'⟩ := hio
    cases h
    rw [flatScript_cons, lastTerm, recvLoopA_append hr, if_neg (hit k), flatScript_cons]
    exact ⟨rfl, rfl, ⟨k, rfl⟩, hio'⟩

theorem recvRetryA_eq (more : List ScriptPiece) (σ : BState) (buf : Bytes) (cs : List Bytes) (t : Term)
    (hio : IoChain t more) :
    (recvRetryA σ buf cs t more).1 = (recvLoopA σ buf (flatScript cs more) (lastTerm t more)).1 ∧
    (recvRetryA σ buf cs t more).2.1 = (recvLoopA σ buf (flatScript cs more) (lastTerm t more)).2.1 ∧
    (recvRetryA σ buf cs t more).2.2.1 = (recvLoopA σ buf (flatScript cs more) (lastTerm t more)).2.2.2 ∧
    flatScript (recvRetryA σ buf cs t more).2.2.2.1 (recvRetryA σ buf cs t more).2.2.2.2.2 =
      (recvLoopA σ buf (flatScript cs more) (lastTerm t more)).2.2.1 ∧
    lastTerm (recvRetryA σ buf cs t more).2.2.2.2.1 (recvRetryA σ buf cs t more).2.2.2.2.2 = lastTerm t more ∧
    IoChain (recvRetryA σ buf cs t more).2.2.2.2.1 (recvRetryA σ buf cs t more).2.2.2.2.2 := by
  obtain ⟨h1, h2, h3⟩ := recvRetryA_spec hio (rfl : recvRetryA σ buf cs t more = (_, _, _, _, _, _))
  rw [h1]
  exact ⟨rfl, rfl, rfl, rfl, h2, h3⟩

theorem sessionRetryA_succ (fuel extra : Nat) {σ σ' : BState} {buf buf' : Bytes} {cs cs' : List Bytes}
    {t t' : Term} {more more' : List ScriptPiece} {it : Item}
    (h : recvRetryA σ buf cs t more = (it, buf', σ', cs', t', more')) :
    sessionRetryA (fuel + 1) extra σ buf cs t more =
      it :: if it.isResp then sessionRetryA fuel extra σ' buf' cs' t' more' else
        match extra with
        | 0 => []
        | e + 1 => sessionRetryA fuel e σ' buf' cs' t' more' := by
  rw [sessionRetryA, h]
  cases it <;> cases extra <;> rfl

/-- **the whole session** is the session of the script without the failures -/
theorem sessionRetryA_eq (fuel : Nat) (extra : Nat) (σ : BState) (buf : Bytes) (cs : List Bytes) (t : Term)
    (more : List ScriptPiece) (hio : IoChain t more) :
    sessionRetryA fuel extra σ buf cs t more = sessionA fuel extra σ buf (flatScript cs more) (lastTerm t more) := by
  induction fuel generalizing extra σ buf cs t more with
  | zero => rfl
  | succ fuel ih =>
    rcases hr : recvRetryA σ buf cs t more with ⟨it, buf', σ', cs', t', more'⟩
    obtain ⟨h1, h2, h3⟩ := recvRetryA_spec hio hr
    rw [sessionRetryA_succ fuel extra hr, sessionA_succ fuel extra h1, ← h2, ih _ _ _ _ _ _ h3]
    cases extra with
    | zero => rfl
    | succ e =>
      dsimp only
      rw [ih _ _ _ _ _ _ h3]

end Mpd.Conn
