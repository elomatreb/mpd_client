import Mpd.Typed.Base
import MpdSpec.Records
import MpdProofs.Lemmas.Bytes
/-!
The server's decimal printing (`Spec.decimal`, `%u`) is read back exactly by the model of Rust's
`uN::from_str` (`Typed.parseUnsigned`), for every number within the type's range.
-/
namespace Mpd
open Mpd.Typed

theorem spec_digit_isDigit (n : Nat) : isDigit (Spec.digit n) = true := isDigit_ofNat _ (Nat.mod_lt _ (by decide))
theorem spec_digit_val (n : Nat) : (Spec.digit n).toNat - 48 = n % 10 := toNat_ofNat_digit _ (Nat.mod_lt _ (by decide))

/-- the specification's `%u` and the model's `{}` are the same function, written down twice -/
theorem decimalAux_eq (fuel n : Nat) : Spec.decimalAux fuel n = natToDecFuel fuel n := by
  induction fuel generalizing n with
  | zero => rfl
  | succ fuel ih =>
    unfold Spec.decimalAux natToDecFuel
    split
    · rename_i h; simp [Spec.digit, Nat.mod_eq_of_lt h]
    · rw [ih]; rfl

theorem decimal_eq (n : Nat) : Spec.decimal n = natToDec n := decimalAux_eq _ n

theorem decimal_val (n : Nat) : digitsVal (Spec.decimal n) = n := decimal_eq n ▸ (natToDec_spec n).2.2
theorem decimal_digits (n : Nat) : (Spec.decimal n).all isDigit = true := decimal_eq n ▸ (natToDec_spec n).2.1
theorem decimal_ne_nil (n : Nat) : Spec.decimal n ≠ [] := decimal_eq n ▸ (natToDec_spec n).1

theorem isDigit_ne_sign (b : UInt8) (h : isDigit b = true) : b ≠ 43 ∧ b ≠ 45 ∧ b ≠ 46 := by
  refine ⟨?_, ?_, ?_⟩ <;> (intro e; subst e; revert h; decide)

theorem digit_ne_sign : ∀ m, m < 10 → (48 + m).toUInt8 ≠ 43 ∧ (48 + m).toUInt8 ≠ 45 ∧ (48 + m).toUInt8 ≠ 46 :=
  fun m h => isDigit_ne_sign _ (isDigit_ofNat m h)

theorem parseUnsigned_digits (max : Nat) (s : Bytes) (hne : s ≠ []) (hd : s.all isDigit = true)
    (hm : digitsVal s ≤ max) : parseUnsigned max s = some (digitsVal s) := by
  cases s with
  | nil => exact absurd rfl hne
  | cons b t =>
    have hb : isDigit b = true := by simp only [List.all_cons, Bool.and_eq_true] at hd; exact hd.1
    have hs := (isDigit_ne_sign b hb).1
    unfold parseUnsigned
    split
    · rename_i t' heq
      simp only [List.cons.injEq] at heq
      exact absurd heq.1 hs
    · simp [hd, hm]

theorem parseUnsigned_decimal (max n : Nat) (h : n ≤ max) : parseUnsigned max (Spec.decimal n) = some n := by
  have := parseUnsigned_digits max (Spec.decimal n) (decimal_ne_nil n) (decimal_digits n) (by rw [decimal_val]; exact h)
  rw [this, decimal_val]

theorem parseU8_decimal (n : Nat) (h : n ≤ 255) : parseU8 (Spec.decimal n) = some n := parseUnsigned_decimal _ n h
theorem parseU32_decimal (n : Nat) (h : n ≤ 4294967295) : parseU32 (Spec.decimal n) = some n := parseUnsigned_decimal _ n h
theorem parseU64_decimal (n : Nat) (h : n ≤ 18446744073709551615) : parseU64 (Spec.decimal n) = some n :=
  parseUnsigned_decimal _ n h
theorem parseUsize_decimal (n : Nat) (h : n ≤ 18446744073709551615) : parseUsize (Spec.decimal n) = some n :=
  parseUnsigned_decimal _ n h

theorem parseBool_b01 (b : Bool) : parseBool (Spec.b01 b) = some b := by cases b <;> decide

end Mpd
