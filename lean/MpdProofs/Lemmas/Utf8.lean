import Mpd.Utf8
import MpdProofs.Lemmas.Tok
/-!
# The bytewise model equals its `char`-level transcription on every string

`escape_argument`, `validate_command_part`, `escape_filter_value` and the scan of `Tag::try_from` look only
for ASCII characters, and every byte of a non-ASCII char has its high bit set (`encodeCp_high`): a bytewise
`any`, substitution or first-offender scan over an `AsciiClass` commutes with UTF-8 encoding. Second part: the
encoding of scalar values passes `validUtf8`.
-/
namespace Mpd.Utf8
open Mpd.Cmd

theorem toNat_ofNat_lt (n : Nat) (h : n < 256) : (UInt8.ofNat n).toNat = n := by
  simp [Nat.mod_eq_of_lt h]

theorem ofNat_eq_iff (c k : Nat) (hc : c < 256) (hk : k < 256) : (UInt8.ofNat c = UInt8.ofNat k) ↔ c = k := by
  constructor
  · intro h
    have := congrArg UInt8.toNat h
    rwa [toNat_ofNat_lt _ hc, toNat_ofNat_lt _ hk] at this
  · intro h; rw [h]

theorem ofNat_le_iff (c k : Nat) (hc : c < 256) (hk : k < 256) : (UInt8.ofNat c ≤ UInt8.ofNat k) ↔ c ≤ k := by
  rw [UInt8.le_iff_toNat_le, toNat_ofNat_lt _ hc, toNat_ofNat_lt _ hk]

theorem ofNat_lt_iff (c k : Nat) (hc : c < 256) (hk : k < 256) : (UInt8.ofNat c < UInt8.ofNat k) ↔ c < k := by
  rw [UInt8.lt_iff_toNat_lt, toNat_ofNat_lt _ hc, toNat_ofNat_lt _ hk]

theorem beq_toNat (b k : UInt8) : (b == k) = decide (b.toNat = k.toNat) := by
  rw [Bool.eq_iff_iff]; simp [UInt8.toNat_inj]

theorem isCont_ofNat (n : Nat) (h : n < 64) : isCont (UInt8.ofNat (0x80 + n)) = true := by
  simp only [isCont, Bool.and_eq_true, decide_eq_true_eq]
  constructor
  · rw [show (0x80 : UInt8) = UInt8.ofNat 0x80 from rfl, ofNat_le_iff _ _ (by decide) (by omega)]; omega
  · rw [show (0xBF : UInt8) = UInt8.ofNat 0xBF from rfl, ofNat_le_iff _ _ (by omega) (by decide)]; omega

/-- a continuation byte `0x80 + x % 64` as a number -/
theorem cont_range (x : Nat) : 0x80 ≤ 0x80 + x % 64 ∧ 0x80 + x % 64 ≤ 0xBF := by omega

theorem high_ofNat (n : Nat) (h : 128 ≤ n ∧ n < 256) : 128 ≤ (UInt8.ofNat n).toNat := by
  rw [toNat_ofNat_lt n h.2]; exact h.1

/-- the four shapes of `char::encode_utf8` -/
theorem encodeCp_cases (c : Nat) :
    (c < 0x80 ∧ encodeCp c = [.ofNat c]) ∨
    (0x80 ≤ c ∧ c < 0x800 ∧ encodeCp c = [.ofNat (0xC0 + c / 64), .ofNat (0x80 + c % 64)]) ∨
    (0x800 ≤ c ∧ c < 0x10000 ∧
      encodeCp c = [.ofNat (0xE0 + c / 4096), .ofNat (0x80 + c / 64 % 64), .ofNat (0x80 + c % 64)]) ∨
    (0x10000 ≤ c ∧
      encodeCp c = [.ofNat (0xF0 + c / 262144), .ofNat (0x80 + c / 4096 % 64), .ofNat (0x80 + c / 64 % 64),
        .ofNat (0x80 + c % 64)]) := by
  unfold encodeCp
  by_cases h1 : c < 0x80
  · exact .inl ⟨h1, if_pos h1⟩
  by_cases h2 : c < 0x800
  · exact .inr (.inl ⟨Nat.le_of_not_lt h1, h2, (if_neg h1).trans (if_pos h2)⟩)
  by_cases h3 : c < 0x10000
  · exact .inr (.inr (.inl ⟨Nat.le_of_not_lt h2, h3, (if_neg h1).trans ((if_neg h2).trans (if_pos h3))⟩))
  · exact .inr (.inr (.inr ⟨Nat.le_of_not_lt h3, (if_neg h1).trans ((if_neg h2).trans (if_neg h3))⟩))

theorem encodeCp_high (c : Nat) (h1 : 0x80 ≤ c) (h2 : c < 0x110000) : ∀ b ∈ encodeCp c, 128 ≤ b.toNat := by
  have cont : ∀ x, 128 ≤ 0x80 + x % 64 ∧ 0x80 + x % 64 < 256 := fun x =>
    ⟨(cont_range x).1, Nat.lt_of_le_of_lt (cont_range x).2 (by decide)⟩
  rcases encodeCp_cases c with ⟨h, _⟩ | ⟨_, h, e⟩ | ⟨_, h, e⟩ | ⟨_, e⟩
  · omega
  · simp only [e, List.forall_mem_cons, List.not_mem_nil, false_imp_iff, implies_true, and_true]
    exact ⟨high_ofNat _ (by omega), high_ofNat _ (cont _)⟩
  · simp only [e, List.forall_mem_cons, List.not_mem_nil, false_imp_iff, implies_true, and_true]
    exact ⟨high_ofNat _ (by omega), high_ofNat _ (cont _), high_ofNat _ (cont _)⟩
  · simp only [e, List.forall_mem_cons, List.not_mem_nil, false_imp_iff, implies_true, and_true]
    exact ⟨high_ofNat _ (by omega), high_ofNat _ (cont _), high_ofNat _ (cont _), high_ofNat _ (cont _)⟩

theorem encodeCp_ascii (c : Nat) (h : c < 0x80) : encodeCp c = [UInt8.ofNat c] := by
  simp [encodeCp, h]

/-- a string: every char is at most `char::MAX` (surrogates need not even be excluded) -/
def Chars (cs : List Nat) : Prop := ∀ c ∈ cs, c < 0x110000

theorem encodeStr_cons (c : Nat) (cs : List Nat) : encodeStr (c :: cs) = encodeCp c ++ encodeStr cs := by
  simp [encodeStr]

theorem encodeStr_append (a b : List Nat) : encodeStr (a ++ b) = encodeStr a ++ encodeStr b := by
  simp [encodeStr]

theorem encodeCp_ne_nil (c : Nat) : ∃ b tl, encodeCp c = b :: tl := by
  rcases encodeCp_cases c with ⟨_, e⟩ | ⟨_, _, e⟩ | ⟨_, _, e⟩ | ⟨_, e⟩
  all_goals exact ⟨_, _, e⟩

theorem filter_length_zero (cs : List Nat) :
    ((cs.filter shouldEscapeC).length == 0) = !(cs.any shouldEscapeC) := by
  induction cs with
  | nil => rfl
  | cons c cs ih =>
    by_cases he : shouldEscapeC c
    · simp [he]
    · simp only [List.filter_cons, he, List.any_cons, Bool.false_or]
      exact ih

/-- `f` on bytes and `F` on chars are the same set of ASCII characters -/
structure AsciiClass (f : UInt8 → Bool) (F : Nat → Bool) : Prop where
  ascii : ∀ c, c < 0x80 → f (UInt8.ofNat c) = F c
  high : ∀ b : UInt8, 0x80 ≤ b.toNat → f b = false
  highC : ∀ c, 0x80 ≤ c → F c = false

theorem lt256 {n : Nat} (h : n < 0x80) : n < 256 := Nat.lt_trans h (by decide)

theorem AsciiClass.eq (k : Nat) (hk : k < 0x80) : AsciiClass (· == UInt8.ofNat k) (· == k) where
  ascii c hc := by
    rw [Bool.eq_iff_iff]; simp only [beq_iff_eq]
    exact ofNat_eq_iff c k (lt256 hc) (lt256 hk)
  high b hb := by
    rw [beq_eq_false_iff_ne]; intro e; subst e
    rw [toNat_ofNat_lt _ (lt256 hk)] at hb
    exact absurd hk (Nat.not_lt.mpr hb)
  highC c hc := by
    rw [beq_eq_false_iff_ne]; intro e; subst e
    exact absurd hk (Nat.not_lt.mpr hc)

theorem AsciiClass.range (lo hi : Nat) (hlo : lo ≤ hi) (hhi : hi < 0x80) :
    AsciiClass (fun b => decide (UInt8.ofNat lo ≤ b) && decide (b ≤ UInt8.ofNat hi))
      (fun c => decide (lo ≤ c) && decide (c ≤ hi)) where
  ascii c hc := by
    simp only [ofNat_le_iff _ _ (lt256 (Nat.lt_of_le_of_lt hlo hhi)) (lt256 hc),
      ofNat_le_iff _ _ (lt256 hc) (lt256 hhi)]
  high b hb := by
    have : ¬ b ≤ UInt8.ofNat hi := by
      rw [UInt8.le_iff_toNat_le, toNat_ofNat_lt _ (lt256 hhi)]
      exact Nat.not_le.mpr (Nat.lt_of_lt_of_le hhi hb)
    simp [this]
  highC c hc := by
    have : ¬ c ≤ hi := Nat.not_le.mpr (Nat.lt_of_lt_of_le hhi hc)
    simp [this]

theorem AsciiClass.or {f g : UInt8 → Bool} {F G : Nat → Bool} (h1 : AsciiClass f F) (h2 : AsciiClass g G) :
    AsciiClass (fun b => f b || g b) (fun c => F c || G c) where
  ascii c hc := by simp only [h1.ascii c hc, h2.ascii c hc]
  high b hb := by simp only [h1.high b hb, h2.high b hb, Bool.or_false]
  highC c hc := by simp only [h1.highC c hc, h2.highC c hc, Bool.or_false]

theorem cls_shouldEscape : AsciiClass shouldEscape shouldEscapeC :=
  ((AsciiClass.eq 0x5C (by decide)).or (.eq 0x22 (by decide))).or (.eq 0x27 (by decide))
theorem cls_alpha : AsciiClass isAlpha isAsciiAlphaC :=
  (AsciiClass.range 65 90 (by decide) (by decide)).or (.range 97 122 (by decide) (by decide))
theorem cls_cmdChar : AsciiClass isValidCommandChar isValidCommandCharC :=
  cls_alpha.or (.eq 0x5F (by decide))
theorem cls_tagChar : AsciiClass isTagChar isTagCharC :=
  (cls_alpha.or (.eq 0x5F (by decide))).or (.eq 0x2D (by decide))
theorem cls_quoteBslash :
    AsciiClass (fun b => b == QUOTE || b == BSLASH) (fun c => c == 0x22 || c == 0x5C) :=
  (AsciiClass.eq 0x22 (by decide)).or (.eq 0x5C (by decide))

theorem any_encodeCp {f : UInt8 → Bool} {F : Nat → Bool} (h : AsciiClass f F) (c : Nat) (hc : c < 0x110000) :
    (encodeCp c).any f = F c := by
  by_cases ha : c < 0x80
  · simp [encodeCp_ascii c ha, h.ascii c ha]
  · rw [h.highC c (Nat.le_of_not_lt ha)]
    exact List.any_eq_false.mpr fun b hb => by simp [h.high b (encodeCp_high c (Nat.le_of_not_lt ha) hc b hb)]

theorem any_encode {f : UInt8 → Bool} {F : Nat → Bool} (h : AsciiClass f F) (cs : List Nat) (hc : Chars cs) :
    (encodeStr cs).any f = cs.any F := by
  induction cs with
  | nil => rfl
  | cons c cs ih =>
    rw [encodeStr_cons, List.any_append, any_encodeCp h c (hc c (by simp)), List.any_cons,
      ih fun x hx => hc x (by simp [hx])]

theorem flatMap_encode {f : UInt8 → Bool} {F : Nat → Bool} (h : AsciiClass f F) (r : UInt8 → Bytes)
    (R : Nat → List Nat) (hr : ∀ c, c < 0x80 → r (UInt8.ofNat c) = encodeStr (R c))
    (cs : List Nat) (hc : Chars cs) :
    (encodeStr cs).flatMap (fun b => if f b then r b else [b]) =
      encodeStr (cs.flatMap fun c => if F c then R c else [c]) := by
  induction cs with
  | nil => rfl
  | cons c cs ih =>
    rw [encodeStr_cons, List.flatMap_append, List.flatMap_cons, encodeStr_append,
      ih fun x hx => hc x (by simp [hx])]
    congr 1
    by_cases ha : c < 0x80
    · rw [encodeCp_ascii c ha, List.flatMap_singleton, h.ascii c ha, hr c ha]
      split
      · rfl
      · simp [encodeStr, encodeCp_ascii c ha]
    · have hh := encodeCp_high c (Nat.le_of_not_lt ha) (hc c (by simp))
      rw [h.highC c (Nat.le_of_not_lt ha), List.flatMap_def,
        List.map_congr_left fun b hb => if_neg (by simp [h.high b (hh b hb)]),
        ← List.flatMap_def, List.flatMap_singleton']
      simp [encodeStr]

theorem escBodyC_eq_flatMap (cs : List Nat) :
    escBodyC cs = cs.flatMap fun c => if shouldEscapeC c then [0x5C, c] else [c] :=
  eq_flatMap rfl (fun c cs => by rw [escBodyC]; split <;> rfl) cs

theorem escBody_encode (cs : List Nat) (h : Chars cs) : escBody (encodeStr cs) = encodeStr (escBodyC cs) := by
  rw [TokL.escBody_eq_flatMap, escBodyC_eq_flatMap]
  refine flatMap_encode cls_shouldEscape (fun b => [BSLASH, b]) (fun c => [0x5C, c]) (fun c hc => ?_) cs h
  have : encodeCp 0x5C = [BSLASH] := by decide
  simp [encodeStr, encodeCp_ascii c hc, this]

theorem replaceByte_eq_flatMap (k : UInt8) (rep a : Bytes) :
    Filter.replaceByte k rep a = a.flatMap fun b => if b == k then rep else [b] :=
  eq_flatMap rfl (fun b bs => by rw [Filter.replaceByte]; split <;> rfl) a

theorem replaceC_eq_flatMap (k : Nat) (rep cs : List Nat) :
    replaceC k rep cs = cs.flatMap fun c => if c == k then rep else [c] :=
  eq_flatMap rfl (fun c cs => by rw [replaceC]; split <;> rfl) cs

theorem replaceByte_encode (k : Nat) (hk : k < 0x80) (rep cs : List Nat) (h : Chars cs) :
    Filter.replaceByte (UInt8.ofNat k) (encodeStr rep) (encodeStr cs) = encodeStr (replaceC k rep cs) := by
  rw [replaceByte_eq_flatMap, replaceC_eq_flatMap]
  exact flatMap_encode (.eq k hk) (fun _ => encodeStr rep) (fun _ => rep) (fun _ _ => rfl) cs h

/-- the byte offset of the first char outside an ASCII class is the index of the first byte outside it -/
theorem firstBad_encode {p : UInt8 → Bool} {P : Nat → Bool} (h : AsciiClass p P) (cs : List Nat) (hc : Chars cs) :
    firstBad p (encodeStr cs) = firstBadC P cs := by
  induction cs with
  | nil => rfl
  | cons c cs ih =>
    have ih := ih fun x hx => hc x (by simp [hx])
    rw [encodeStr_cons]
    by_cases ha : c < 0x80
    · simp only [encodeCp_ascii c ha, List.cons_append, List.nil_append, firstBad, firstBadC, h.ascii c ha, ih,
        List.length_cons, List.length_nil]
    · obtain ⟨b, tl, hbt⟩ := encodeCp_ne_nil c
      have hh := encodeCp_high c (Nat.le_of_not_lt ha) (hc c (by simp)) b (by rw [hbt]; simp)
      simp [hbt, firstBad, firstBadC, h.high b hh, h.highC c (Nat.le_of_not_lt ha)]

theorem escapeArgument_encode (cs : List Nat) (h : Chars cs) :
    escapeArgument (encodeStr cs) = encodeStr (escapeArgumentC cs) := by
  simp only [escapeArgument, escapeArgumentC, needsQuotes]
  rw [any_encode cls_shouldEscape cs h, filter_length_zero]
  have hq : encodeCp 34 = [QUOTE] := by decide
  rw [escBody_encode cs h]
  by_cases hquoted : ((encodeStr cs).isEmpty || (encodeStr cs).any (· ≤ SPACE)) = true
  · simp only [hquoted, Bool.not_true, Bool.and_false, Bool.false_eq_true, if_false, if_true]
    simp [hq, encodeStr]
  · simp only [hquoted, Bool.not_false, Bool.and_true, Bool.false_eq_true, if_false, List.nil_append,
      List.append_nil]
    cases cs.any shouldEscapeC
    · rfl
    · rfl

/-- `char_indices().find(…)`, which reports byte offsets -/
theorem firstBadNameChar_encode (cs : List Nat) (h : Chars cs) (i : Nat) :
    firstBadNameChar i (encodeStr cs) = firstBadNameCharC i cs := by
  induction cs generalizing i with
  | nil => rfl
  | cons c cs ih =>
    have ih := ih (fun x hx => h x (by simp [hx]))
    rw [encodeStr_cons]
    by_cases hc : c < 0x80
    · simp only [encodeCp_ascii c hc, List.cons_append, List.nil_append, firstBadNameChar, firstBadNameCharC,
        cls_alpha.ascii c hc, cls_cmdChar.ascii c hc, List.length_cons, List.length_nil, ih]
    · obtain ⟨b, tl, hbt⟩ := encodeCp_ne_nil c
      have hh := encodeCp_high c (Nat.le_of_not_lt hc) (h c (by simp)) b (by rw [hbt]; simp)
      simp [hbt, firstBadNameChar, firstBadNameCharC, cls_cmdChar.high b hh, cls_cmdChar.highC c (Nat.le_of_not_lt hc)]

theorem validateCommandPart_encode (cs : List Nat) (h : Chars cs) :
    validateCommandPart (encodeStr cs) = validateCommandPartC cs := by
  unfold validateCommandPart validateCommandPartC
  rw [firstBadNameChar_encode cs h 0]
  rfl

theorem replaceC_chars (k : Nat) (rep cs : List Nat) (hr : Chars rep) (h : Chars cs) : Chars (replaceC k rep cs) := by
  rw [replaceC_eq_flatMap]
  intro x hx
  obtain ⟨c, hc, hx⟩ := List.mem_flatMap.mp hx
  split at hx
  · exact hr x hx
  · exact List.mem_singleton.mp hx ▸ h c hc

theorem escapeFilterValue_encode (cs : List Nat) (h : Chars cs) :
    Filter.escapeFilterValue (encodeStr cs) = encodeStr (escapeFilterValueC cs) := by
  unfold Filter.escapeFilterValue escapeFilterValueC
  rw [any_encode cls_quoteBslash cs h]
  have r1 : ([BSLASH, BSLASH, BSLASH, BSLASH] : Bytes) = encodeStr [0x5C, 0x5C, 0x5C, 0x5C] := by decide
  have r2 : ([BSLASH, BSLASH, QUOTE] : Bytes) = encodeStr [0x5C, 0x5C, 0x22] := by decide
  have k1 : BSLASH = UInt8.ofNat 0x5C := by decide
  have k2 : QUOTE = UInt8.ofNat 0x22 := by decide
  rcases Bool.eq_false_or_eq_true (cs.any (fun c => c == 0x22 || c == 0x5C)) with he | he
  · simp only [he, if_true]
    rw [r1, r2, k1, k2, replaceByte_encode 0x5C (by decide) _ cs h,
      replaceByte_encode 0x22 (by decide) _ _ (replaceC_chars _ _ _ (by intro c hc; simp at hc; omega) h)]
  · simp [he]

/-- the validity scan of `Tag::try_from` -/
theorem firstBad_tag_encode (cs : List Nat) (h : Chars cs) :
    firstBad isTagChar (encodeStr cs) = firstBadC isTagCharC cs :=
  firstBad_encode cls_tagChar cs h

/-! `valid1` … `valid4`: one well-formed sequence of `core::str::from_utf8`'s table, stated on the VALUES of
the lead byte and of the range-restricted second byte (the other continuation bytes only need `isCont`), so
that `validUtf8_encodeCp` only has to bound the quotients and remainders `encodeCp` computes. -/

theorem valid1 (n0 : Nat) (rest : Bytes) (h0 : n0 < 0x80) :
    validUtf8 (.ofNat n0 :: rest) = validUtf8 rest := by
  rw [validUtf8.eq_def]
  exact if_pos ((ofNat_lt_iff n0 0x80 (lt256 h0) (by decide)).mpr h0)

theorem valid2 (n0 : Nat) (b1 : UInt8) (rest : Bytes) (h0 : 0xC2 ≤ n0 ∧ n0 ≤ 0xDF) (h1 : isCont b1 = true) :
    validUtf8 (.ofNat n0 :: b1 :: rest) = validUtf8 rest := by
  have g1 : ¬ n0 < 128 := Nat.not_lt.mpr (Nat.le_trans (by decide) h0.1)
  rw [validUtf8.eq_def]
  simp [UInt8.lt_iff_toNat_lt, UInt8.le_iff_toNat_le, toNat_ofNat_lt n0 (Nat.lt_of_le_of_lt h0.2 (by decide)), g1, h0,
    h1]

theorem valid3 (n0 n1 : Nat) (b2 : UInt8) (rest : Bytes)
    (h0 : 0xE0 ≤ n0 ∧ n0 ≤ 0xEF) (h1 : 0x80 ≤ n1 ∧ n1 ≤ 0xBF) (h2 : isCont b2 = true)
    (hE0 : n0 = 0xE0 → 0xA0 ≤ n1) (hED : n0 = 0xED → n1 ≤ 0x9F) :
    validUtf8 (.ofNat n0 :: .ofNat n1 :: b2 :: rest) = validUtf8 rest := by
  have e1 := toNat_ofNat_lt n1 (Nat.lt_of_le_of_lt h1.2 (by decide))
  have c1 : isCont (.ofNat n1) = true := by simp [isCont, UInt8.le_iff_toNat_le, e1, h1]
  rw [validUtf8.eq_def]
  simp only [h2, UInt8.lt_iff_toNat_lt, UInt8.le_iff_toNat_le, beq_toNat,
    toNat_ofNat_lt n0 (Nat.lt_of_le_of_lt h0.2 (by decide)), UInt8.reduceToNat]
  rcases (by omega : n0 = 224 ∨ n0 = 237 ∨ (225 ≤ n0 ∧ n0 ≤ 236) ∨ n0 = 238 ∨ n0 = 239) with
    rfl | rfl | h | rfl | rfl
  · simp [e1, h1, hE0 rfl]
  · simp [e1, h1, hED rfl]
  · have g : ¬ n0 < 128 ∧ ¬ (194 ≤ n0 ∧ n0 ≤ 223) ∧ n0 ≠ 224 := by omega
    simp [g, h, c1]
  · simp [c1]
  · simp [c1]

theorem valid4 (n0 n1 : Nat) (b2 b3 : UInt8) (rest : Bytes)
    (h0 : 0xF0 ≤ n0 ∧ n0 ≤ 0xF4) (h1 : 0x80 ≤ n1 ∧ n1 ≤ 0xBF) (h2 : isCont b2 = true)
    (h3 : isCont b3 = true) (hF0 : n0 = 0xF0 → 0x90 ≤ n1) (hF4 : n0 = 0xF4 → n1 ≤ 0x8F) :
    validUtf8 (.ofNat n0 :: .ofNat n1 :: b2 :: b3 :: rest) = validUtf8 rest := by
  have e1 := toNat_ofNat_lt n1 (Nat.lt_of_le_of_lt h1.2 (by decide))
  rw [validUtf8.eq_def]
  simp only [h2, h3, UInt8.lt_iff_toNat_lt, UInt8.le_iff_toNat_le, beq_toNat,
    toNat_ofNat_lt n0 (Nat.lt_of_le_of_lt h0.2 (by decide)), e1, UInt8.reduceToNat]
  rcases (by omega : n0 = 240 ∨ (241 ≤ n0 ∧ n0 ≤ 243) ∨ n0 = 244) with rfl | h | rfl
  · simp [h1, hF0 rfl]
  · have g : ¬ n0 < 128 ∧ ¬ (194 ≤ n0 ∧ n0 ≤ 223) ∧ n0 ≠ 224 ∧ ¬ (225 ≤ n0 ∧ n0 ≤ 236) ∧ n0 ≠ 238 ∧
        n0 ≠ 239 ∧ n0 ≠ 237 ∧ n0 ≠ 240 := by omega
    simp [isCont, UInt8.le_iff_toNat_le, e1, g, h, h1]
  · simp [h1, hF4 rfl]

theorem validUtf8_encodeCp (c : Nat) (hs : isScalar c = true) (rest : Bytes) :
    validUtf8 (encodeCp c ++ rest) = validUtf8 rest := by
  simp only [isScalar, Bool.or_eq_true, Bool.and_eq_true, decide_eq_true_eq] at hs
  have cont : ∀ x, isCont (.ofNat (0x80 + x % 64)) = true := fun x => isCont_ofNat _ (Nat.mod_lt _ (by decide))
  rcases encodeCp_cases c with ⟨h, e⟩ | ⟨_, h, e⟩ | ⟨_, h, e⟩ | ⟨_, e⟩
  · rw [e]; exact valid1 _ _ h
  · rw [e]; exact valid2 _ _ _ (by omega) (cont _)
  · -- one `omega` for the lead byte and the rows `E0` (no overlong form) and `ED` (no surrogate)
    have : (0xE0 ≤ 0xE0 + c / 4096 ∧ 0xE0 + c / 4096 ≤ 0xEF) ∧
        (0xE0 + c / 4096 = 0xE0 → 0xA0 ≤ 0x80 + c / 64 % 64) ∧
        (0xE0 + c / 4096 = 0xED → 0x80 + c / 64 % 64 ≤ 0x9F) := by omega
    rw [e]; exact valid3 _ _ _ _ this.1 (cont_range _) (cont _) this.2.1 this.2.2
  · -- the same for `F0` (no overlong form) and `F4` (nothing above `char::MAX`)
    have : (0xF0 ≤ 0xF0 + c / 262144 ∧ 0xF0 + c / 262144 ≤ 0xF4) ∧
        (0xF0 + c / 262144 = 0xF0 → 0x90 ≤ 0x80 + c / 4096 % 64) ∧
        (0xF0 + c / 262144 = 0xF4 → 0x80 + c / 4096 % 64 ≤ 0x8F) := by omega
    rw [e]; exact valid4 _ _ _ _ _ this.1 (cont_range _) (cont _) (cont _) this.2.1 this.2.2

/-- every Rust string is in the model's domain: the bytes of a `str` pass `validUtf8`, the predicate the model
applies where the code calls `from_utf8` -/
theorem validUtf8_encodeStr (cs : List Nat) (h : ∀ c ∈ cs, isScalar c = true) : validUtf8 (encodeStr cs) = true := by
  induction cs with
  | nil => rfl
  | cons c cs ih =>
    rw [encodeStr_cons, validUtf8_encodeCp c (h c (by simp))]
    exact ih (fun x hx => h x (by simp [hx]))

theorem chars_of_scalar (cs : List Nat) (h : ∀ c ∈ cs, isScalar c = true) : Chars cs := by
  intro c hc
  have := h c hc
  simp only [isScalar, Bool.or_eq_true, Bool.and_eq_true, decide_eq_true_eq] at this
  omega

end Mpd.Utf8
