/-! General facts about lists (core Lean only). -/
namespace Mpd

variable {α : Type}

/-- `v` is the longest prefix of `l` whose elements satisfy `p`, and `b :: r` is what follows it -/
theorem span_eq_iff {p : α → Bool} {l v r : List α} {b : α} :
    (l.takeWhile p = v ∧ l.dropWhile p = b :: r) ↔ (v.all p = true ∧ l = v ++ b :: r ∧ p b = false) := by
  constructor
  · rintro ⟨rfl, hd⟩
    refine ⟨List.all_takeWhile, ?_, ?_⟩
    · rw [← hd, List.takeWhile_append_dropWhile]
    · have := List.head_dropWhile_not p (l := l) (by rw [hd]; exact List.cons_ne_nil _ _)
      simpa only [hd, List.head_cons] using this
  · rintro ⟨hv, rfl, hb⟩
    have hv' := List.all_eq_true.mp hv
    have hb' : ¬ p b = true := by rw [hb]; exact Bool.false_ne_true
    rw [List.takeWhile_append_of_pos hv', List.dropWhile_append_of_pos hv', List.takeWhile_cons_of_neg hb',
      List.dropWhile_cons_of_neg hb', List.append_nil]
    exact ⟨rfl, rfl⟩

theorem all_ne_iff_not_mem [DecidableEq α] (c : α) (l : List α) : l.all (· != c) = true ↔ c ∉ l := by
  rw [List.all_eq_true]
  exact ⟨fun h hc => by simpa using h c hc, fun h x hx => bne_iff_ne.mpr fun hxc => h (hxc ▸ hx)⟩

/-- the split of a list at the first occurrence of `c` is unique -/
theorem append_cons_inj_of_not_mem [DecidableEq α] {c : α} {a b x y : List α} (ha : c ∉ a) (hb : c ∉ b)
    (h : a ++ c :: x = b ++ c :: y) : a = b ∧ x = y := by
  have hc : (c != c) = false := by simp
  obtain ⟨h1, h2⟩ := span_eq_iff.mpr ⟨(all_ne_iff_not_mem c a).mpr ha, rfl, hc⟩
  obtain ⟨h3, h4⟩ := span_eq_iff.mpr ⟨(all_ne_iff_not_mem c b).mpr hb, h, hc⟩
  exact ⟨h3.symm.trans h1 |>.symm, List.cons.inj (h4.symm.trans h2) |>.2.symm⟩

theorem findSome?_ite {β : Type} (p : α → Bool) (g : α → β) (l : List α) :
    l.findSome? (fun a => if p a then some (g a) else none) = (l.find? p).map g := by
  induction l with
  | nil => rfl
  | cons a t ih => cases h : p a <;> simp [h, ih]

theorem eq_nil_or_snoc (l : List α) : l = [] ∨ ∃ l' a, l = l' ++ [a] := by
  simpa only [List.concat_eq_append] using List.eq_nil_or_concat l

/-- reverse induction on lists (core has no `reverseRecOn`) -/
theorem snoc_induction {P : List α → Prop} (nil : P [])
    (snoc : ∀ l a, P l → P (l ++ [a])) : ∀ l, P l := by
  intro l
  rw [← List.reverse_reverse l]
  induction l.reverse with
  | nil => exact nil
  | cons a t ih => rw [List.reverse_cons]; exact snoc _ a ih

theorem mem_zipWith {β γ : Type} {g : α → β → γ} {as : List α} {bs : List β} {x : γ}
    (h : x ∈ List.zipWith g as bs) : ∃ a ∈ as, ∃ b ∈ bs, x = g a b := by
  induction as generalizing bs with
  | nil => cases h
  | cons a as ih =>
    cases bs with
    | nil => cases h
    | cons b bs =>
      rcases List.mem_cons.mp h with rfl | h
      · exact ⟨a, List.mem_cons_self .., b, List.mem_cons_self .., rfl⟩
      · obtain ⟨a', ha, b', hb, rfl⟩ := ih h
        exact ⟨a', List.mem_cons_of_mem _ ha, b', List.mem_cons_of_mem _ hb, rfl⟩

theorem mapM_eq_some_map_iff {β : Type} (dec : α → Option β) (f : α → β) (xs : List α) :
    xs.mapM dec = some (xs.map f) ↔ ∀ x ∈ xs, dec x = some (f x) := by
  induction xs with
  | nil => simp
  | cons x xs ih =>
    simp only [List.mapM_cons, List.map_cons, List.mem_cons, forall_eq_or_imp, ← ih]
    cases dec x <;> cases xs.mapM dec <;> simp

/-- a function with `f [] = []` and `f (a :: l) = g a ++ f l` is `flatMap g` -/
theorem eq_flatMap {β : Type} {f : List α → List β} {g : α → List β} (h0 : f [] = [])
    (hc : ∀ a l, f (a :: l) = g a ++ f l) (l : List α) : f l = l.flatMap g := by
  induction l with
  | nil => exact h0
  | cons a l ih => rw [hc, ih, List.flatMap_cons]

end Mpd
