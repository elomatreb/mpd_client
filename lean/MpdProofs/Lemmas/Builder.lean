import Mpd.Builder
import MpdProofs.Lemmas.Parser
/-!
Chunk independence of `ResponseBuilder::parse` (`feed`). `feed` is characterised by the outcome of its first
`parseComp` (`feed_of_ok`, `feed_of_incomplete`, `feed_of_reject`); everything else is functional induction plus these.
-/
namespace Mpd.Builder
open Mpd.Parser

theorem feed_of_ok {buf rest : Bytes} {c : Comp} (σ : BState) (h : parseComp buf = .ok c rest) :
    feed σ buf =
      match toPiece c (buf.take (buf.length - rest.length)) with
      | none => (σ, rest, .panic)
      | some pc =>
        match bstep σ pc with
        | (σ', some r) => (σ', rest, .done r)
        | (σ', none) => feed σ' rest := by
  rw [feed]
  split <;> rename_i h2 <;> rw [h] at h2 <;> cases h2
  rfl

theorem feed_of_incomplete {buf : Bytes} (σ : BState) (h : parseComp buf = .incomplete) :
    feed σ buf = (σ, buf, .pending) := by
  rw [feed]
  split <;> rename_i h2 <;> rw [h] at h2 <;> cases h2

theorem feed_nil (σ : BState) : feed σ [] = (σ, [], .pending) :=
  feed_of_incomplete σ (by decide)

theorem feed_of_reject {buf : Bytes} (σ : BState) (h : parseComp buf = .error ∨ parseComp buf = .failure) :
    feed σ buf = (σ, buf, .invalid) := by
  rw [feed]
  rcases h with h | h <;> split <;> rename_i h2 <;> rw [h] at h2 <;> cases h2 <;> rfl

/-- the bytes consumed by a successful component are a prefix, unaffected by appended bytes -/
theorem consumed_append (buf rest q : Bytes) :
    (buf ++ q).take ((buf ++ q).length - (rest ++ q).length) = buf.take (buf.length - rest.length) := by
  rw [List.length_append, List.length_append, Nat.add_sub_add_right]
  exact List.take_append_of_le_length (Nat.sub_le ..)

/-- **chunk independence**: a result other than `pending` is final, more bytes only extend the
unconsumed rest; a pending builder goes on with what it left followed by the new bytes -/
theorem feed_append (σ : BState) (buf q : Bytes) :
    feed σ (buf ++ q) =
      if (feed σ buf).2.2 = .pending then feed (feed σ buf).1 ((feed σ buf).2.1 ++ q)
      else ((feed σ buf).1, (feed σ buf).2.1 ++ q, (feed σ buf).2.2) := by
  fun_induction feed σ buf with
  | case1 σ buf c rest h hlt hp =>
    rw [feed_of_ok σ ((parseComp_stable buf q).1 c rest h), consumed_append buf rest q, hp]
    rfl
  | case2 σ buf c rest h hlt pc hpc σ' r hb =>
    rw [feed_of_ok σ ((parseComp_stable buf q).1 c rest h), consumed_append buf rest q, hpc]
    simp only [hb]
    rfl
  | case3 σ buf c rest h hlt pc hpc σ' hb ih =>
    rw [feed_of_ok σ ((parseComp_stable buf q).1 c rest h), consumed_append buf rest q, hpc]
    simp only [hb]
    exact ih
  | case4 σ buf h => rfl
  | case5 σ buf h => exact feed_of_reject σ (.inl ((parseComp_stable buf q).2.1 h))
  | case6 σ buf h => exact feed_of_reject σ (.inr ((parseComp_stable buf q).2.2 h))

theorem feed_pending_append (σ : BState) (buf q : Bytes) :
    (feed σ buf).2.2 = .pending →
    feed σ (buf ++ q) = feed (feed σ buf).1 ((feed σ buf).2.1 ++ q) :=
  fun h => (feed_append σ buf q).trans (if_pos h)

theorem feed_final_append (σ : BState) (buf q : Bytes) :
    (feed σ buf).2.2 ≠ .pending →
    feed σ (buf ++ q) = ((feed σ buf).1, (feed σ buf).2.1 ++ q, (feed σ buf).2.2) :=
  fun h => (feed_append σ buf q).trans (if_neg h)

/-! The same with the result of `feed σ buf` named. -/

theorem feed_pending_or_final (σ : BState) (buf : Bytes) :
    (∃ σ' rest, feed σ buf = (σ', rest, .pending)) ∨
    (∃ σ' rest out, feed σ buf = (σ', rest, out) ∧ out ≠ .pending) := by
  rcases hf : feed σ buf with ⟨σ', rest, out⟩
  by_cases ho : out = .pending
  · exact .inl ⟨σ', rest, by rw [ho]⟩
  · exact .inr ⟨σ', rest, out, rfl, ho⟩

theorem feed_append_of_pending {σ σ' : BState} {buf rest : Bytes} (h : feed σ buf = (σ', rest, .pending))
    (q : Bytes) : feed σ (buf ++ q) = feed σ' (rest ++ q) := by
  rw [feed_pending_append σ buf q (by rw [h]), h]

theorem feed_append_of_final {σ σ' : BState} {buf rest : Bytes} {out : Out} (h : feed σ buf = (σ', rest, out))
    (ho : out ≠ .pending) (q : Bytes) : feed σ (buf ++ q) = (σ', rest ++ q, out) := by
  rw [feed_final_append σ buf q (by rw [h]; exact ho), h]

theorem bstep_some_initial (σ : BState) (pc : Piece) (r : Response) (h : (bstep σ pc).2 = some r) :
    (bstep σ pc).1 = .initial := by
  cases pc with
  | endOfResponse => cases σ <;> rfl
  | error e => cases σ <;> rfl
  | _ => cases σ <;> cases h

theorem bstep_none_ne_initial (σ : BState) (pc : Piece) (h : (bstep σ pc).2 = none) :
    (bstep σ pc).1 ≠ .initial := by
  cases pc with
  | endOfResponse => cases σ <;> cases h
  | error e => cases σ <;> cases h
  | _ => cases σ <;> exact BState.noConfusion

/-- What `feed` leaves: no more than it got; after a complete response, less, and the builder reset (`finish` /
`error`); when pending, bytes that are an incomplete component, and a response in progress if one was or if something
was consumed; when invalid, bytes that `parseComp` rejects. -/
theorem feed_leaves {σ σ' : BState} {buf rest : Bytes} {out : Out} (h : feed σ buf = (σ', rest, out)) :
    rest.length ≤ buf.length ∧ (∀ r, out = .done r → σ' = .initial ∧ rest.length < buf.length) ∧
    (out = .pending → parseComp rest = .incomplete ∧ (rest.length < buf.length ∨ σ ≠ .initial → σ' ≠ .initial)) ∧
    (out = .invalid → parseComp rest = .error ∨ parseComp rest = .failure) := by
  fun_induction feed σ buf with
  | case1 σ buf c rest' hc hlt hp =>
    cases h
    exact ⟨Nat.le_of_lt hlt, nofun, nofun, nofun⟩
  | case2 σ buf c rest' hc hlt pc hpc σ'' r' hb =>
    cases h
    have hi := bstep_some_initial σ pc r' (by rw [hb])
    rw [hb] at hi
    exact ⟨Nat.le_of_lt hlt, fun _ _ => ⟨hi, hlt⟩, nofun, nofun⟩
  | case3 σ buf c rest' hc hlt pc hpc σ'' hb ih =>
    obtain ⟨h1, h2, h3, h4⟩ := ih h
    have hn := bstep_none_ne_initial σ pc (by rw [hb])
    rw [hb] at hn
    exact ⟨Nat.le_trans h1 (Nat.le_of_lt hlt), fun r hr => ⟨(h2 r hr).1, Nat.lt_trans (h2 r hr).2 hlt⟩,
      fun hp => ⟨(h3 hp).1, fun _ => (h3 hp).2 (.inr hn)⟩, h4⟩
  | case4 σ buf hc =>
    cases h
    exact ⟨Nat.le_refl _, nofun, fun _ => ⟨hc, fun h => h.elim (fun h => absurd h (Nat.lt_irrefl _)) id⟩, nofun⟩
  | case5 σ buf hc =>
    cases h
    exact ⟨Nat.le_refl _, nofun, nofun, fun _ => .inl hc⟩
  | case6 σ buf hc =>
    cases h
    exact ⟨Nat.le_refl _, nofun, nofun, fun _ => .inr hc⟩

/-- if `feed` consumed something and is still pending, a response is in progress -/
theorem _root_.Mpd.C10.feed_pending_inProgress (σ : BState) (buf : Bytes) :
    (feed σ buf).2.2 = .pending → (feed σ buf).2.1.length < buf.length ∨ σ ≠ .initial →
    (feed σ buf).1 ≠ .initial :=
  fun hp => ((feed_leaves rfl).2.2.1 hp).2

end Mpd.Builder

namespace Mpd.Conn
open Mpd.Builder

/-- what `feed` left does not parse to a component, so `feed` stops there again -/
theorem feed_pending_idem {σ σ' : BState} {buf rest : Bytes} (h : feed σ buf = (σ', rest, .pending)) :
    feed σ' rest = (σ', rest, .pending) :=
  feed_of_incomplete σ' ((feed_leaves h).2.2.1 rfl).1

theorem feed_invalid_idem {σ σ' : BState} {buf rest : Bytes} (h : feed σ buf = (σ', rest, .invalid)) :
    feed σ' rest = (σ', rest, .invalid) :=
  feed_of_reject σ' ((feed_leaves h).2.2.2 rfl)

/-- parsing again what `feed` left behind changes nothing, when it stopped for lack of bytes or on `invalid` -/
theorem feed_idem (σ : BState) (buf : Bytes) :
    (feed σ buf).2.2 = .pending ∨ (feed σ buf).2.2 = .invalid →
    feed (feed σ buf).1 (feed σ buf).2.1 = feed σ buf := by
  rcases hf : feed σ buf with ⟨σ', rest, out⟩
  rintro (rfl | rfl)
  · exact feed_pending_idem hf
  · exact feed_invalid_idem hf

end Mpd.Conn
