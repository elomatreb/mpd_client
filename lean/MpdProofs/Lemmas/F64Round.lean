import MpdProofs.Lemmas.F64
/-!
# `{:.3}` of `Duration::as_secs_f64()` is within 1 ms below 2^43 s (C15)
-/
namespace Mpd.F64L
open Mpd.F64

/-- `Duration::as_secs_f64` in the emulation (the value `millisRendered` formats) -/
def asSecsF64 (secs nanos : Nat) : Val :=
  let a := round64 secs 1
  let b := round64 nanos 1000000000
  round64 (a.num * b.den + b.num * a.den) (a.den * b.den)

theorem millisRendered_eq (secs nanos : Nat) :
    millisRendered secs nanos = rhe ((asSecsF64 secs nanos).num * 1000) (asSecsF64 secs nanos).den := rfl

theorem flog2_le (n d : Nat) : flog2 n d ≤ (Nat.log2 n : Int) - (Nat.log2 d : Int) + 1 := by
  rcases flog2_cases n d with h | h | h <;> omega

theorem flog2_ge (n d : Nat) : (Nat.log2 n : Int) - (Nat.log2 d : Int) - 1 ≤ flog2 n d := by
  rcases flog2_cases n d with h | h | h <;> omega

theorem den_pow2 (v : Val) : ∃ k, v.den = 2 ^ k := by
  cases v with
  | inf => exact ⟨0, rfl⟩
  | fin m e =>
    simp only [Val.den]
    split
    · exact ⟨0, rfl⟩
    · exact ⟨_, rfl⟩

/-- the error budget: `t` is within 1/2 of `1000·mh/Sh` (decimal rounding), `mh/Sh` within `1/(2·Sh)` of
`secs + mb/Sb` (the addition, `Sh ≥ 2^10`), `mb/Sb` within `1/(2·Sb)` of `nanos/10^9` (the division,
`Sb ≥ 2^53`); in milliseconds 0.5 + 1000·2^-11 + 1000·2^-54 < 1. Each bound is scaled to the common
denominator `Sb·Sh`; the rest is linear. -/
theorem within_1ms (secs nanos t mh mb Sb Sh : Nat) (hSb : 2 ^ 53 ≤ Sb) (hSh : 2 ^ 10 ≤ Sh)
    (T1 : 2 * (t * Sh) ≤ 2 * (mh * 1000) + Sh ∧ 2 * (mh * 1000) ≤ 2 * (t * Sh) + Sh)
    (T2 : 2 * (mh * Sb) ≤ 2 * ((secs * Sb + mb) * Sh) + Sb ∧ 2 * ((secs * Sb + mb) * Sh) ≤ 2 * (mh * Sb) + Sb)
    (T3 : 2 * (mb * 1000000000) ≤ 2 * (nanos * Sb) + 1000000000 ∧
      2 * (nanos * Sb) ≤ 2 * (mb * 1000000000) + 1000000000) :
    t * 1000000 ≤ secs * 1000000000 + nanos + 1000000 ∧ secs * 1000000000 + nanos ≤ t * 1000000 + 1000000 := by
  have hP : 0 < Sb * Sh := Nat.mul_pos (by omega) (by omega)
  have hP1 : 2 ^ 10 * Sb ≤ Sb * Sh := by rw [Nat.mul_comm _ Sb]; exact Nat.mul_le_mul_left _ hSh
  have hP2 : 2 ^ 53 * Sh ≤ Sb * Sh := Nat.mul_le_mul_right _ hSb
  have U1a := Nat.mul_le_mul_right Sb T1.1
  have U1b := Nat.mul_le_mul_right Sb T1.2
  have U3a := Nat.mul_le_mul_right Sh T3.1
  have U3b := Nat.mul_le_mul_right Sh T3.2
  obtain ⟨T2a, T2b⟩ := T2
  constructor <;> (apply Nat.le_of_mul_le_mul_right _ hP; grind)

/-- below 2^43 s (from there on it fails for some durations: `C15_K4_witness`) the printed thousandths `t` satisfy, in nanoseconds,
`|t·10^6 − (secs·10^9 + nanos)| ≤ 10^6`; the sum is below 2^43, hence the addition within 2^-11 s -/
theorem millisRendered_within (secs nanos : Nat) (hs : secs < 2 ^ 43) (hn : nanos < 1000000000) :
    millisRendered secs nanos * 1000000 ≤ secs * 1000000000 + nanos + 1000000 ∧
    secs * 1000000000 + nanos ≤ millisRendered secs nanos * 1000000 + 1000000 := by
  have ha := round64_exact secs (Nat.lt_trans hs (by decide))
  obtain ⟨Kb, _, _, hKb, -, hrb, hb⟩ := round64_small nanos 1000000000 0 (by omega) (by decide)
  have T3 := rhe_err (nanos * 2 ^ Kb) 1000000000 (by decide)
  have hSb : 2 ^ 53 ≤ 2 ^ Kb := Nat.pow_le_pow_right (by decide) (by omega)
  rw [← hrb] at hb
  rw [millisRendered_eq]
  unfold asSecsF64
  simp only
  generalize round64 secs 1 = a at *
  generalize round64 nanos 1000000000 = b at *
  generalize rhe (nanos * 2 ^ Kb) 1000000000 = mb at *
  generalize 2 ^ Kb = Sb at *
  have hnS : (a.num * b.den + b.num * a.den) * Sb = (secs * Sb + mb) * (a.den * b.den) := by
    rw [ha, Nat.add_mul, Nat.add_mul, Nat.mul_right_comm b.num, hb]; ac_rfl
  have hdhp : 0 < a.den * b.den := Nat.mul_pos (den_pos a) (den_pos b)
  generalize a.num * b.den + b.num * a.den = nh at *
  generalize a.den * b.den = dh at *
  -- the sum stays below 2^43 s: the fraction `mb/Sb` is below one second
  have hlt : nh < 2 ^ 43 * dh := by
    have : nanos * Sb ≤ 999999999 * Sb := Nat.mul_le_mul_right Sb (by omega)
    have : (secs + 1) * Sb ≤ 2 ^ 43 * Sb := Nat.mul_le_mul_right Sb hs
    have hmb : secs * Sb + mb < 2 ^ 43 * Sb := by rw [Nat.succ_mul] at this; omega
    apply Nat.lt_of_mul_lt_mul_right (a := Sb)
    rw [hnS, Nat.mul_right_comm]
    exact Nat.mul_lt_mul_of_pos_right hmb hdhp
  obtain ⟨Kh, _, _, hKh, -, hrh, hh⟩ := round64_small nh dh 43 hlt (by decide)
  have T2 := rhe_err (nh * 2 ^ Kh) dh hdhp
  have hSh : 2 ^ 10 ≤ 2 ^ Kh := Nat.pow_le_pow_right (by decide) (by omega)
  rw [← hrh] at hh
  generalize round64 nh dh = h at *
  have T1 := rhe_err (h.num * 1000) h.den (den_pos h)
  exact within_1ms secs nanos _ _ mb Sb _ hSb hSh (rescale (den_pos h) hh T1) (rescale hdhp hnS T2) T3

end Mpd.F64L
