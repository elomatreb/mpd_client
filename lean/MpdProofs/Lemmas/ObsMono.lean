import MpdProofs.Lemmas.NoidleOnly
namespace Mpd.Loop

def Ext (s s' : St) : Prop := ∃ e, s'.obs = s.obs ++ e

theorem ext_of_extk {k : Nat} {s s' : St} (h : ExtK k s s') : Ext s s' := h.imp fun _ he => he.1

theorem ext_write (s : St) (b : Bytes) (w : WKind) : Ext s (write s b w).1 := by
  rcases write_cases s b w with ⟨_, h⟩ | ⟨k, _, h⟩ <;> rw [h]
  · exact ⟨[_], rfl⟩
  · exact ⟨[], by simp⟩

/-- **the log only grows** -/
theorem step_ext (s s' : St) (rf : Bool) (hc : s.pc ≠ .connecting) (h : step s rf = some s') : Ext s s' :=
  ext_of_extk (step_noidle s s' rf hc h)

end Mpd.Loop
