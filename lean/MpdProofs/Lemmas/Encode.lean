import MpdProofs.Lemmas.Wire
import MpdProofs.Lemmas.Builder
/-!
The builder on encoder output, one line at a time: `feed` on `<wire form of a component> ++ tl` performs exactly the
state-machine step of that component and continues with `tl`.
-/
namespace Mpd.Builder
open Mpd.Parser

theorem consumed_exact (msg tl : Bytes) : (msg ++ tl).take ((msg ++ tl).length - tl.length) = msg :=
  (consumed_append msg [] tl).trans List.take_length

/-- header, payload, LF: the cut `feed` makes for a binary component gives the payload -/
theorem payload_cut (hdr bin : Bytes) :
    ((hdr ++ bin ++ [LF]).drop ((hdr ++ bin ++ [LF]).length - (bin.length + 1))).take bin.length = bin := by
  have : (hdr ++ bin ++ [LF]).length - (bin.length + 1) = hdr.length := by simp
  rw [this]
  simp [List.append_assoc]

theorem cutBinary_wire (hdr bin : Bytes) :
    cutBinary (hdr ++ bin ++ [LF]) bin.length = some bin := by
  rw [cutBinary, if_neg (by simp), payload_cut]

/-- the piece handed to the state machine for a component found on the wire -/
def pieceOf : Comp → Bytes → Piece
  | .endOfFrame, _ => .endOfFrame
  | .endOfResponse, _ => .endOfResponse
  | .error e, _ => .error e
  | .field k v, _ => .field k v
  | .binary n, msg => .binary ((msg.drop (msg.length - (n + 1))).take n)

theorem pieceOf_binary (hdr bin : Bytes) : pieceOf (.binary bin.length) (hdr ++ bin ++ [LF]) = .binary bin :=
  congrArg Piece.binary (payload_cut hdr bin)

theorem toPiece_wire (c : Comp) (msg : Bytes) (hw : Wire c msg) : toPiece c msg = some (pieceOf c msg) := by
  cases hw with
  | endOfResponse => rfl
  | endOfFrame => rfl
  | field k v _ _ _ _ => rfl
  | error _ _ _ _ _ _ _ _ _ => rfl
  | binary ds bin hnum hlen =>
    rw [← hlen, pieceOf_binary, toPiece, cutBinary_wire]
    rfl

/-- **`feed` never panics**: the payload cut-out is always in range, because the consumed bytes
are exactly header + payload + LF (soundness of the parser) -/
theorem feed_no_panic (σ : BState) (buf : Bytes) : (feed σ buf).2.2 ≠ .panic := by
  fun_induction feed σ buf with
  | case1 σ buf c rest h hlt hp =>
    exfalso
    obtain ⟨msg, hw, hi⟩ := parseComp_sound buf c rest h
    have := toPiece_wire c msg hw
    rw [hi, consumed_exact] at hp
    rw [hp] at this
    simp at this
  | case2 σ buf c rest h hlt pc hpc σ' r hb => simp
  | case3 σ buf c rest h hlt pc hpc σ' hb ih => exact ih
  | case4 σ buf h => simp
  | case5 σ buf h => simp
  | case6 σ buf h => simp

/-- one component on the wire = one step of the state machine -/
theorem feed_wire (σ : BState) (c : Comp) (msg tl : Bytes) (hw : Wire c msg)
    (hres : ∀ k v, c = .field k v → k ≠ str "binary") :
    feed σ (msg ++ tl) =
      match bstep σ (pieceOf c msg) with
      | (σ', some r) => (σ', tl, .done r)
      | (σ', none) => feed σ' tl := by
  rw [feed_of_ok σ (parseComp_complete c msg tl hw hres), consumed_exact, toPiece_wire c msg hw]
  rfl

theorem feed_field (σ : BState) {k v msg : Bytes} (tl : Bytes) (hw : Wire (.field k v) msg) (hk : k ≠ str "binary") :
    feed σ (msg ++ tl) = feed (bstep σ (.field k v)).1 tl := by
  rw [feed_wire σ _ _ _ hw (fun _ _ h => by cases h; exact hk)]
  cases σ <;> rfl

theorem feed_binary (σ : BState) (ds bin tl : Bytes) (hnum : IsNum ds) (hlen : bin.length = digitsVal ds) :
    feed σ (str "binary: " ++ ds ++ [LF] ++ bin ++ [LF] ++ tl) = feed (bstep σ (.binary bin)).1 tl := by
  rw [feed_wire σ _ _ _ (Wire.binary ds bin hnum hlen) nofun, ← hlen, pieceOf_binary]
  cases σ <;> rfl

/-! A view of the builder state: (reply to a list?, current frame, completed frames). -/

def isList : BState → Bool
  | .listInProgress _ _ => true
  | _ => false
def cur : BState → AFrame
  | .initial => emptyFrame
  | .inProgress c => c
  | .listInProgress c _ => c
def doneFrames : BState → List AFrame
  | .listInProgress _ d => d
  | _ => []

/-- states are equal up to the distinction `initial` / `inProgress emptyFrame`, which no terminator
can observe -/
def Sim (a b : BState) : Prop := isList a = isList b ∧ cur a = cur b ∧ doneFrames a = doneFrames b

theorem bstep_field (σ : BState) (k v : Bytes) :
    (bstep σ (.field k v)).2 = none ∧ isList (bstep σ (.field k v)).1 = isList σ ∧
    cur (bstep σ (.field k v)).1 = pushField (cur σ) k v ∧
    doneFrames (bstep σ (.field k v)).1 = doneFrames σ := by
  cases σ <;> exact ⟨rfl, rfl, rfl, rfl⟩

theorem bstep_binary (σ : BState) (b : Bytes) :
    (bstep σ (.binary b)).2 = none ∧ isList (bstep σ (.binary b)).1 = isList σ ∧
    cur (bstep σ (.binary b)).1 = { cur σ with binary := some b } ∧
    doneFrames (bstep σ (.binary b)).1 = doneFrames σ := by
  cases σ <;> exact ⟨rfl, rfl, rfl, rfl⟩

theorem bstep_endOfFrame (σ : BState) :
    bstep σ .endOfFrame =
      (.listInProgress emptyFrame (doneFrames σ ++ [cur σ]), none) := by
  cases σ <;> rfl

theorem bstep_endOfResponse (σ : BState) :
    bstep σ .endOfResponse =
      (.initial, some { frames := if isList σ then doneFrames σ else [cur σ], error := none }) := by
  cases σ <;> rfl

theorem bstep_error (σ : BState) (e : Err) :
    bstep σ (.error e) =
      (.initial, some { frames := doneFrames σ, error := some e }) := by
  cases σ <;> rfl

end Mpd.Builder
