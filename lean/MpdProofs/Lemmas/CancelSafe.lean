import MpdProofs.Lemmas.LoopInv
import MpdProofs.Lemmas.Builder
/-!
The run loop decodes the byte stream independently of scheduling. `resid s` is what the connection is committed to
decode next: `σcur s` (the live future's builder state, or the one kept by the connection between futures) and the
bytes a future polled now would see (unparsed buffer ++ delivered-but-unread bytes). The steps that DROP a live
receive future because the command branch of the `select!` won leave it unchanged; this is where mpd_client before
fix F12 lost the lines the future had already parsed.
-/
namespace Mpd.Loop
open Mpd.Builder Mpd.Conn

/-- the builder state a receive future polled now would work with -/
def σcur (s : St) : BState :=
  match s.pc with
  | .pwWait σ => σ
  | .idling σ => σ
  | .cancelWait _ σ => σ
  | .waiting _ σ => σ
  | _ => s.bstash

def resid (s : St) : BState × Bytes := (σcur s, s.buf ++ s.avail)

/-- the decoding the connection is committed to, for every continuation `q` of the stream -/
def future (s : St) (q : Bytes) : BState × Bytes × Out := feed (resid s).1 ((resid s).2 ++ q)

theorem Poll.pending_stream {s x : St} {σ σ' : BState} (h : Poll s σ x (.pending σ')) (q : Bytes) :
    feed σ' (x.buf ++ x.avail ++ q) = feed σ (s.buf ++ s.avail ++ q) := by
  cases h with
  | pending _ hf _ =>
    show feed σ' (_ ++ [] ++ q) = _
    rw [List.append_nil, feed_append_of_pending hf q]

/-- a polled response is exactly the next response of the stream, and leaves the builder reset -/
theorem Poll.resp_stream {s x : St} {σ : BState} {rp : RecvPoll} {r : Response} (h : Poll s σ x rp)
    (hr : rp = .ready (.resp r)) :
    x.bstash = .initial ∧ ∀ q, feed σ (s.buf ++ s.avail ++ q) = (.initial, x.buf ++ x.avail ++ q, .done r) := by
  cases h with
  | @buffered σ' rest out hf _ =>
    obtain rfl := finalItem_eq_resp (RecvPoll.ready.inj hr)
    obtain rfl : σ' = .initial := ((feed_leaves hf).2.1 r rfl).1
    refine ⟨rfl, fun q => ?_⟩
    rw [List.append_assoc, feed_append_of_final hf (by simp), ← List.append_assoc]
  | fault k _ _ => cases hr
  | @read σ' rest out _ hf _ =>
    obtain rfl := finalItem_eq_resp (RecvPoll.ready.inj hr)
    obtain rfl : σ' = .initial := ((feed_leaves hf).2.1 r rfl).1
    refine ⟨rfl, fun q => ?_⟩
    show _ = (_, rest ++ [] ++ q, _)
    rw [feed_append_of_final hf (by simp), List.append_nil]
  | @eof σ' rest _ _ _ =>
    have := RecvPoll.ready.inj hr
    rcases eofItem_cases σ' rest with h | h <;> rw [h] at this <;> cases this
  | pending _ _ _ => cases hr

theorem pollRecv_stream (s : St) (σ : BState) :
    (∀ σ', (pollRecv s σ).2 = .pending σ' →
      ∀ q, feed σ' ((pollRecv s σ).1.buf ++ (pollRecv s σ).1.avail ++ q) = feed σ (s.buf ++ s.avail ++ q)) ∧
    (∀ r, (pollRecv s σ).2 = .ready (.resp r) →
      (pollRecv s σ).1.bstash = .initial ∧
      ∀ q, feed σ (s.buf ++ s.avail ++ q) = (.initial, (pollRecv s σ).1.buf ++ (pollRecv s σ).1.avail ++ q, .done r)) :=
  ⟨fun _ h => (h ▸ pollRecv_poll s σ).pending_stream, fun _ h => (pollRecv_poll s σ).resp_stream h⟩

theorem pollRecv_bstash_pending (s : St) (σ : BState) :
    ∀ σ', (pollRecv s σ).2 = .pending σ' → (pollRecv s σ).1.bstash = s.bstash := by
  intro σ' h
  have hp := pollRecv_poll s σ
  rw [h] at hp
  generalize (pollRecv s σ).1 = x at hp
  cases hp
  rfl

/-- the connection-level part of the state the decoding depends on -/
def Same (s s' : St) : Prop := s'.bstash = s.bstash ∧ s'.buf = s.buf ∧ s'.avail = s.avail

theorem same_write (s : St) (b : Bytes) (w : WKind) : Same s (write s b w).1 := by
  unfold write; cases s.werr <;> exact ⟨rfl, rfl, rfl⟩

/-- the replies handed to callers, in order -/
def responses (obs : List Obs) : List (Nat × Response) :=
  obs.filterMap fun o => match o with | .resolved id (.response r) => some (id, r) | _ => none

def eventsOf (obs : List Obs) : List Bytes :=
  obs.filterMap fun o => match o with | .event n => some n | _ => none

theorem responses_append (a b : List Obs) : responses (a ++ b) = responses a ++ responses b := by
  simp [responses, List.filterMap_append]
theorem eventsOf_append (a b : List Obs) : eventsOf (a ++ b) = eventsOf a ++ eventsOf b := by
  simp [eventsOf, List.filterMap_append]

/-- between `s` and `s'` no response reached a caller and no event the event stream -/
def Quiet (s s' : St) : Prop := responses s'.obs = responses s.obs ∧ eventsOf s'.obs = eventsOf s.obs

theorem quiet_refl (s : St) : Quiet s s := ⟨rfl, rfl⟩
theorem quiet_trans {a b c : St} (h1 : Quiet a b) (h2 : Quiet b c) : Quiet a c :=
  ⟨h2.1.trans h1.1, h2.2.trans h1.2⟩

/-- neither a reply for a caller nor an event -/
def Obs.Silent (o : Obs) : Prop := responses [o] = [] ∧ eventsOf [o] = []

theorem quiet_emit (s : St) (o : Obs) (ho : o.Silent) : Quiet s (emit s o) :=
  ⟨by rw [emit, responses_append, ho.1]; exact List.append_nil _,
   by rw [emit, eventsOf_append, ho.2]; exact List.append_nil _⟩

theorem quiet_write (s : St) (b : Bytes) (w : WKind) : Quiet s (write s b w).1 := by
  unfold write; cases s.werr
  · exact quiet_emit s _ ⟨rfl, rfl⟩
  · exact quiet_refl s

theorem quiet_foldl_emit (q : List Req) (s : St) :
    Quiet s (q.foldl (fun s r => emit s (.resolved r.id .closed)) s) := by
  rw [foldl_emit_eq (fun r : Req => Obs.resolved r.id .closed)]
  simp [Quiet, responses, eventsOf, List.filterMap_map, Function.comp_def]

theorem quiet_exitLoop (s : St) : Quiet s (exitLoop s) := by
  unfold Quiet
  rw [(exitLoop_spec s).2.2]
  simp [responses, eventsOf]

theorem emitEvents_log (s : St) (f : AFrame) :
    responses (emitEvents s f).obs = responses s.obs ∧
    eventsOf (emitEvents s f).obs = eventsOf s.obs ++ changedValues f := by
  rw [emitEvents_eq]
  simp [responses, eventsOf, List.filterMap_map, Function.comp_def]

/-- the events an idle reply stands for -/
def eventsOfReply (r : Response) : List Bytes :=
  match intoSingleFrame r with
  | some (.ok f) => changedValues f
  | _ => []

inductive Consumer where
  | verdict            -- `do_connect`: the reply to `password`
  | idle               -- the idle loop: the reply to `idle` (possibly provoked by `noidle`)
  | reply (id : Nat)   -- the caller of request `id`
deriving Repr, DecidableEq

/-- the consumer of the reply a written line provokes (`noidle` provokes none of its own) -/
def WKind.consumer : WKind → Option Consumer
  | .password => some .verdict
  | .idle => some .idle
  | .request id => some (.reply id)
  | .noidle => none

/-- the reply-producing lines written so far, as the consumers of their replies, in order -/
def replyWrites (obs : List Obs) : List Consumer :=
  obs.filterMap fun o => match o with | .wrote _ k => k.consumer | _ => none

@[simp] theorem replyWrites_append (a b : List Obs) : replyWrites (a ++ b) = replyWrites a ++ replyWrites b := by
  simp [replyWrites, List.filterMap_append]

/-- the reply the task is waiting for at this program point -/
def outstanding : Pc → List Consumer
  | .pwWait _ => [.verdict]
  | .idling _ => [.idle]
  | .cancelWait _ _ => [.idle]
  | .waiting r _ => [.reply r.id]
  | _ => []

/-- a step that consumes nothing: what it writes (Δ) is what it now additionally waits for -/
def WSilent (s s' : St) : Prop :=
  Terminal s' ∨ ∃ Δ, replyWrites s'.obs = replyWrites s.obs ++ Δ ∧ outstanding s'.pc = outstanding s.pc ++ Δ

/-- a step that consumes a response: it was waiting for exactly one reply, and what it writes afterwards is exactly
what it waits for next -/
def WConsumed (s s' : St) : Prop :=
  (∃ c, outstanding s.pc = [c]) ∧ (Terminal s' ∨ replyWrites s'.obs = replyWrites s.obs ++ outstanding s'.pc)

theorem rw_emit_other (s : St) (o : Obs) (ho : ∀ b k, o ≠ .wrote b k) : replyWrites (emit s o).obs = replyWrites s.obs := by
  cases o with
  | wrote b k => exact absurd rfl (ho b k)
  | _ => rw [emit_obs, replyWrites_append]; exact List.append_nil _

theorem rw_foldl_emit (q : List Req) (s : St) :
    replyWrites (q.foldl (fun s r => emit s (.resolved r.id .closed)) s).obs = replyWrites s.obs := by
  rw [foldl_emit_eq (fun r : Req => Obs.resolved r.id .closed)]
  simp [replyWrites, List.filterMap_map, Function.comp_def]

theorem replyWrites_emitEvents (s : St) (f : AFrame) : replyWrites (emitEvents s f).obs = replyWrites s.obs := by
  rw [emitEvents_eq]
  simp [replyWrites, List.filterMap_map, Function.comp_def]

/-- who gets a consumed response: the caller whose request is in flight, or the event stream -/
def Delivery (s s' : St) (r : Response) : Prop :=
  match s.pc with
  | .waiting req _ => responses s'.obs = responses s.obs ++ [(req.id, r)] ∧ eventsOf s'.obs = eventsOf s.obs
  | .idling _ => responses s'.obs = responses s.obs ∧ eventsOf s'.obs = eventsOf s.obs ++ eventsOfReply r
  | .cancelWait _ _ => responses s'.obs = responses s.obs ∧ eventsOf s'.obs = eventsOf s.obs ++ eventsOfReply r
  | _ => Quiet s s'

inductive Effect (s s' : St) : Prop
  | silent (h : ∀ q, future s' q = future s q) (hq : Quiet s s') (hw : WSilent s s')
  | consumed (r : Response) (h : ∀ q, future s q = (.initial, (resid s').2 ++ q, .done r))
      (hσ : (resid s').1 = .initial) (hd : Delivery s s' r) (hw : WConsumed s s')
  | broken (it : Item) (hit : it.isResp = false)
      (hp : (pollRecv { s with fresh := false } (σcur s)).2 = .ready it) (hq : Quiet s s')

theorem silent_of_resid {s s' : St} (h : resid s' = resid s) (hq : Quiet s s') (hw : WSilent s s') : Effect s s' :=
  .silent (by intro q; unfold future; rw [h]) hq hw

theorem σcur_of_recv {s : St} {σ : BState} (h : s.pc.recv? = some σ) : σcur s = σ := by
  unfold σcur; cases hpc : s.pc <;> rw [hpc] at h <;> simp_all [Pc.recv?]

theorem outstanding_setRecv (pc : Pc) (σ' : BState) : outstanding (pc.setRecv σ') = outstanding pc := by
  cases pc <;> rfl

/-! The three ways a step that polls relates to the stream. `x` is the state the poll left: it has the log and the
program point of `s` (`poll_frame`), so what the code does afterwards is stated relative to `x` alone; it must keep
`x`'s read side and tell no caller more than the theorem says. -/

theorem effect_pending {s x s' : St} {σ σ' : BState} (hr : s.pc.recv? = some σ)
    (hp : pollRecv { s with fresh := false } σ = (x, .pending σ'))
    (hres : resid s' = (σ', x.buf ++ x.avail)) (hq : Quiet x s') (hw : WSilent x s') : Effect s s' := by
  have hs := (poll_of_eq hp).pending_stream
  obtain ⟨_, _, _, rfl⟩ := poll_frame hp
  refine .silent (fun q => ?_) hq hw
  unfold future
  rw [hres]
  simp only [resid, σcur_of_recv hr]
  exact hs q

theorem effect_resp {s x s' : St} {σ : BState} {r : Response} (hr : s.pc.recv? = some σ)
    (hp : pollRecv { s with fresh := false } σ = (x, .ready (.resp r)))
    (hres : resid s' = (x.bstash, x.buf ++ x.avail)) (hd : Delivery x s' r) (hw : WConsumed x s') : Effect s s' := by
  obtain ⟨h0, hs⟩ := (poll_of_eq hp).resp_stream rfl
  obtain ⟨_, _, _, rfl⟩ := poll_frame hp
  refine .consumed r (fun q => ?_) (by rw [hres]; exact h0) hd hw
  unfold future
  rw [hres]
  simp only [resid, σcur_of_recv hr]
  exact hs q

theorem effect_broken {s x s' : St} {σ : BState} {it : Item} (hr : s.pc.recv? = some σ) (hit : it.isResp = false)
    (hp : pollRecv { s with fresh := false } σ = (x, .ready it)) (hq : Quiet x s') : Effect s s' := by
  obtain ⟨_, _, _, rfl⟩ := poll_frame hp
  exact .broken it hit (by rw [σcur_of_recv hr, hp]) hq

/-- a piece of the loop's own code run from `x`: it leaves the read side of the connection alone, a receive future it
starts resumes from the kept builder state, and it tells no caller anything -/
structure Tail (x x' : St) : Prop where
  resid : resid x' = (x.bstash, x.buf ++ x.avail)
  quiet : Quiet x x'

/-- … and, starting with `o0` outstanding, what it writes (Δ) is what it then additionally waits for; `WSilent s s'` is
`Waits (outstanding s.pc) s s'` -/
def Waits (o0 : List Consumer) (x x' : St) : Prop :=
  Terminal x' ∨ ∃ Δ, replyWrites x'.obs = replyWrites x.obs ++ Δ ∧ outstanding x'.pc = o0 ++ Δ

theorem tail_exit (x : St) : Tail x (exitLoop x) :=
  ⟨by rw [exitLoop_eq]; rfl, quiet_exitLoop x⟩

theorem tail_exit_emit (x : St) (o : Obs) (ho : o.Silent) : Tail x (exitLoop (emit x o)) :=
  ⟨(tail_exit (emit x o)).resid, quiet_trans (quiet_emit x o ho) (quiet_exitLoop _)⟩

theorem writeOr_tail {b : Bytes} {w : WKind} {pc : BState → Pc} {o : Nat → Obs} {x x' : St}
    (h : WriteOr b w pc o x x') (hpc : ∀ σ, (pc σ).recv? = some σ) (ho : ∀ k, (o k).Silent) : Tail x x' := by
  cases h with
  | ok _ => exact ⟨Prod.ext (σcur_of_recv (hpc _)) rfl, quiet_emit x _ ⟨rfl, rfl⟩⟩
  | fail k _ => exact tail_exit_emit x _ (ho k)

theorem writeOr_waits {b : Bytes} {w : WKind} {pc : BState → Pc} {o : Nat → Obs} {x x' : St} {o0 : List Consumer}
    (h : WriteOr b w pc o x x') (hw : outstanding (pc x.bstash) = o0 ++ replyWrites [.wrote b w]) : Waits o0 x x' := by
  cases h with
  | ok _ => exact .inr ⟨_, replyWrites_append x.obs [.wrote b w], hw⟩
  | fail k _ => exact .inl (terminal_exitLoop _)

theorem move_tail {d : Nat} {x x' : St} (h : Move d x x') : Tail x x' ∧ Waits [] x x' := by
  cases h with
  | serve r q _ hs =>
    have t := writeOr_tail hs (fun _ => rfl) (fun _ => ⟨rfl, rfl⟩)
    have w : Waits [] { x with queue := q } x' := writeOr_waits hs rfl
    exact ⟨⟨t.resid, t.quiet⟩, w⟩
  | leave => exact ⟨tail_exit x, .inl (terminal_exitLoop x)⟩
  | reidle _ _ _ hi => exact ⟨writeOr_tail hi (fun _ => rfl) (fun _ => ⟨rfl, rfl⟩), writeOr_waits hi rfl⟩
  | wait => exact ⟨⟨rfl, quiet_refl x⟩, .inr ⟨[], (List.append_nil _).symm, rfl⟩⟩

/-- `noidle` provokes no reply of its own: the task goes on waiting for the reply to `idle` -/
theorem cancel_tail {x x' : St} (h : Cancel x x') : Tail x x' ∧ Waits [.idle] x x' := by
  cases h with
  | leave => exact ⟨tail_exit x, .inl (terminal_exitLoop x)⟩
  | noidle r q _ hn =>
    have t := writeOr_tail hn (fun _ => rfl) (fun _ => ⟨rfl, rfl⟩)
    have w : Waits [.idle] { x with queue := q } x' := writeOr_waits hn rfl
    exact ⟨⟨t.resid, t.quiet⟩, w⟩

theorem tail_emitEvents {x s' : St} {f : AFrame} (t : Tail (emitEvents x f) s') :
    Mpd.Loop.resid s' = (x.bstash, x.buf ++ x.avail) := by
  rw [t.resid, emitEvents_eq]

theorem wsilent_of_waits {s x s' : St} {o0 : List Consumer} (ho : x.obs = s.obs) (h0 : outstanding s.pc = o0)
    (h : Waits o0 x s') : WSilent s s' := by
  rw [Waits, ho, ← h0] at h
  exact h

theorem wconsumed_of_waits {x y s' : St} {c : Consumer} (hc : outstanding x.pc = [c])
    (hy : replyWrites y.obs = replyWrites x.obs) (h : Waits [] y s') : WConsumed x s' :=
  ⟨⟨c, hc⟩, h.imp id fun ⟨Δ, h1, h2⟩ => by rw [h1, hy, h2, List.nil_append]⟩

theorem delivery_idle {x y s' : St} {r : Response}
    (hy : responses y.obs = responses x.obs ∧ eventsOf y.obs = eventsOf x.obs ++ eventsOfReply r) (hq : Quiet y s') :
    responses s'.obs = responses x.obs ∧ eventsOf s'.obs = eventsOf x.obs ++ eventsOfReply r :=
  ⟨hq.1.trans hy.1, hq.2.trans hy.2⟩

theorem idleReply_frame {x : St} {r : Response} {f : AFrame} (h : intoSingleFrame r = some (.ok f)) :
    responses (emitEvents x f).obs = responses x.obs ∧
      eventsOf (emitEvents x f).obs = eventsOf x.obs ++ eventsOfReply r := by
  simpa [eventsOfReply, h] using emitEvents_log x f

theorem idleReply_noframe {x : St} {r : Response} (h : ∀ f, intoSingleFrame r ≠ some (.ok f)) :
    responses x.obs = responses x.obs ∧ eventsOf x.obs = eventsOf x.obs ++ eventsOfReply r := by
  unfold eventsOfReply
  split
  · exact absurd ‹_› (h _)
  · simp

/-- **the run loop is cancel-safe**: every step after the greeting is silent (the decoding of ANY continuation of the
stream is unchanged), or consumes exactly the next response of the stream and hands it to the right consumer, or ends
a poll with a non-response (end of stream, I/O error, invalid message); and what it writes is exactly what it then
waits for -/
theorem step_effect (s s' : St) (rf : Bool) (hc : s.pc ≠ .connecting) (h : step s rf = some s') : Effect s s' := by
  cases step_sound hc h with
  | spawned hpc hi =>
    have t := writeOr_tail hi (fun _ => rfl) (fun _ => ⟨rfl, rfl⟩)
    exact silent_of_resid (by rw [t.resid]; simp [resid, σcur, hpc]) t.quiet
      (wsilent_of_waits (o0 := []) rfl (by rw [hpc]; rfl) (writeOr_waits hi rfl))
  | timer d hpc _ hm =>
    obtain ⟨t, w⟩ := move_tail hm
    exact silent_of_resid (by rw [t.resid]; simp [resid, σcur, hpc]) t.quiet (wsilent_of_waits rfl (by rw [hpc]; rfl) w)
  | command σ hpc _ hx =>
    obtain ⟨t, w⟩ := cancel_tail hx
    exact silent_of_resid (by rw [t.resid]; simp [resid, σcur, hpc, dropFuture]) t.quiet (wsilent_of_waits rfl (by rw [hpc]; rfl) w)
  | polled σ buf avail kept rp hr _ hp ha =>
    -- `x`: the state the poll left
    have hrx : (s.polled buf avail kept).pc.recv? = some σ := hr
    generalize s.polled buf avail kept = x at hp ha hrx
    cases ha with
    | pending σ' _ =>
      exact effect_pending hr hp (Prod.ext (σcur_of_recv (recv_setRecv σ' hrx)) rfl) (quiet_refl x)
        (.inr ⟨[], by simp, by simp [outstanding_setRecv]⟩)
    | pendingCommand σ σ' hpc _ hx =>
      obtain ⟨t, w⟩ := cancel_tail hx
      exact effect_pending hr hp t.resid t.quiet (wsilent_of_waits rfl (by rw [hpc]; rfl) w)
    | pwAccepted σ r hpc _ =>
      exact effect_resp hr hp rfl (by simp only [Delivery, hpc]; exact quiet_emit _ _ ⟨rfl, rfl⟩)
        ⟨⟨.verdict, by rw [hpc]; rfl⟩, .inr ((rw_emit_other _ _ (by intro _ _ h; cases h)).trans (List.append_nil _).symm)⟩
    | pwRejected σ r hpc _ =>
      exact effect_resp hr hp rfl
        (by simp only [Delivery, hpc]; exact quiet_trans (quiet_emit _ _ ⟨rfl, rfl⟩) (quiet_emit _ _ ⟨rfl, rfl⟩))
        ⟨⟨.verdict, by rw [hpc]; rfl⟩, .inl (.inr rfl)⟩
    | pwBroken σ it hpc hit =>
      exact effect_broken hr hit hp (quiet_trans (quiet_emit _ _ ⟨rfl, rfl⟩) (quiet_emit _ _ ⟨rfl, rfl⟩))
    | idleReply σ r f hpc hsf hi =>
      have t := writeOr_tail hi (fun _ => rfl) (fun _ => ⟨rfl, rfl⟩)
      exact effect_resp hr hp (tail_emitEvents t)
        (by simp only [Delivery, hpc]; exact delivery_idle (idleReply_frame hsf) t.quiet)
        (wconsumed_of_waits (by rw [hpc]; rfl) (replyWrites_emitEvents x f) (writeOr_waits hi rfl))
    | idleError σ r e hpc hsf =>
      have t := tail_exit_emit x (.closing none) ⟨rfl, rfl⟩
      exact effect_resp hr hp t.resid
        (by simp only [Delivery, hpc]; exact delivery_idle (idleReply_noframe (by simp [hsf])) t.quiet)
        ⟨⟨.idle, by rw [hpc]; rfl⟩, .inl (terminal_exitLoop _)⟩
    | idleEmpty σ r hpc hsf =>
      have t := tail_exit x
      exact effect_resp hr hp t.resid
        (by simp only [Delivery, hpc]; exact delivery_idle (idleReply_noframe (by simp [hsf])) t.quiet)
        ⟨⟨.idle, by rw [hpc]; rfl⟩, .inl (terminal_exitLoop _)⟩
    | idleClean σ hpc => exact effect_broken hr rfl hp (quiet_exitLoop x)
    | idleBroken σ it hpc hit _ => exact effect_broken hr hit hp (tail_exit_emit x _ ⟨rfl, rfl⟩).quiet
    | cancelled rq σ r f hpc hsf hs =>
      have t := writeOr_tail hs (fun _ => rfl) (fun _ => ⟨rfl, rfl⟩)
      exact effect_resp hr hp (tail_emitEvents t)
        (by simp only [Delivery, hpc]; exact delivery_idle (idleReply_frame hsf) t.quiet)
        (wconsumed_of_waits (by rw [hpc]; rfl) (replyWrites_emitEvents x f) (writeOr_waits hs rfl))
    | cancelError rq σ r e hpc hsf =>
      have t := tail_exit_emit (emit x (.closing none)) (.resolved rq.id .closed) ⟨rfl, rfl⟩
      exact effect_resp hr hp t.resid
        (by simp only [Delivery, hpc]
            exact delivery_idle (idleReply_noframe (by simp [hsf])) (quiet_trans (quiet_emit x _ ⟨rfl, rfl⟩) t.quiet))
        ⟨⟨.idle, by rw [hpc]; rfl⟩, .inl (terminal_exitLoop _)⟩
    | cancelEmpty rq σ r hpc hsf =>
      have t := tail_exit_emit x (.resolved rq.id .closed) ⟨rfl, rfl⟩
      exact effect_resp hr hp t.resid
        (by simp only [Delivery, hpc]; exact delivery_idle (idleReply_noframe (by simp [hsf])) t.quiet)
        ⟨⟨.idle, by rw [hpc]; rfl⟩, .inl (terminal_exitLoop _)⟩
    | cancelBroken rq σ it hpc hit =>
      refine effect_broken hr hit hp (tail_exit_emit x _ ?_).quiet
      cases it <;> first | exact ⟨rfl, rfl⟩ | cases hit
    | reply rq σ r hpc hm =>
      obtain ⟨t, w⟩ := move_tail hm
      refine effect_resp hr hp t.resid ?_ (wconsumed_of_waits (by rw [hpc]; rfl) (rw_emit_other x _ (by intro _ _ h; cases h)) w)
      simp only [Delivery, hpc]
      rw [t.quiet.1, t.quiet.2]
      -- of the one entry appended, `responses` keeps the reply and `eventsOf` nothing
      exact ⟨responses_append x.obs [_], (eventsOf_append x.obs [_]).trans (List.append_nil _)⟩
    | replyClean rq σ hpc => exact effect_broken hr rfl hp (tail_exit_emit x _ ⟨rfl, rfl⟩).quiet
    | replyBroken rq σ it hpc hit _ hm =>
      exact effect_broken hr hit hp (quiet_trans (quiet_emit x _ ⟨rfl, rfl⟩) (move_tail hm).1.quiet)

end Mpd.Loop
