import Mpd.Typed.Base
/-!
`Outcome.bind`, `Outcome.map` and `Outcome.ofOption` on each constructor, and when their result is a
value or a panic, so that proofs about decoders do not unfold them; `Outcome.all`.
-/
namespace Mpd.Typed.Outcome

variable {α β : Type}

@[simp] theorem bind_ok (a : α) (f : α → Outcome β) : (ok a).bind f = f a := rfl
@[simp] theorem bind_terr (f : α → Outcome β) : terr.bind f = terr := rfl
@[simp] theorem bind_panic (f : α → Outcome β) : panic.bind f = panic := rfl
@[simp] theorem map_ok (g : α → β) (a : α) : (ok a).map g = ok (g a) := rfl
@[simp] theorem map_terr (g : α → β) : terr.map g = terr := rfl
@[simp] theorem map_panic (g : α → β) : panic.map g = panic := rfl
@[simp] theorem ofOption_some (a : α) : ofOption (some a) = ok a := rfl
@[simp] theorem ofOption_none : ofOption (none : Option α) = terr := rfl

theorem bind_eq_ok_iff {o : Outcome α} {f : α → Outcome β} {b : β} :
    o.bind f = ok b ↔ ∃ a, o = ok a ∧ f a = ok b := by
  cases o <;> simp

theorem bind_eq_panic_iff {o : Outcome α} {f : α → Outcome β} :
    o.bind f = panic ↔ o = panic ∨ ∃ a, o = ok a ∧ f a = panic := by
  cases o <;> simp

theorem map_map {γ : Type} (f : α → β) (g : β → γ) (o : Outcome α) : (o.map f).map g = o.map (g ∘ f) := by
  cases o <;> rfl

theorem map_eq_ok_iff {g : α → β} {o : Outcome α} {b : β} : o.map g = ok b ↔ ∃ a, g a = b ∧ o = ok a := by
  cases o <;> simp

theorem map_eq_panic_iff {g : α → β} {o : Outcome α} : o.map g = panic ↔ o = panic := by
  cases o <;> simp

theorem ofOption_eq_ok_iff {o : Option α} {a : α} : ofOption o = ok a ↔ o = some a := by
  cases o <;> simp

theorem ofOption_ne_panic (o : Option α) : ofOption o ≠ panic := by
  cases o <;> simp

/-- the values, if every outcome is a value; else the first failure (`?` in a `for` loop) -/
def all {ρ : Type} : List (Outcome ρ) → Outcome (List ρ)
  | [] => .ok []
  | o :: os => o.bind fun r => (all os).map (r :: ·)

@[simp] theorem all_nil {ρ : Type} : all ([] : List (Outcome ρ)) = .ok [] := rfl
@[simp] theorem all_ok_cons {ρ : Type} (r : ρ) (os : List (Outcome ρ)) : all (.ok r :: os) = (all os).map (r :: ·) := rfl
@[simp] theorem all_terr_cons {ρ : Type} (os : List (Outcome ρ)) : all (.terr :: os) = .terr := rfl
@[simp] theorem all_panic_cons {ρ : Type} (os : List (Outcome ρ)) : all (.panic :: os) = .panic := rfl

theorem all_eq_ok_iff {ρ : Type} {os : List (Outcome ρ)} {rs : List ρ} : all os = .ok rs ↔ os = rs.map .ok := by
  induction os generalizing rs with
  | nil => cases rs <;> simp
  | cons o os ih =>
    cases o with
    | ok r => cases rs <;> simp [map_eq_ok_iff, ih, and_assoc]
    | terr => cases rs <;> simp
    | panic => cases rs <;> simp

theorem all_ne_panic {ρ : Type} {os : List (Outcome ρ)} (h : ∀ o ∈ os, o ≠ .panic) : all os ≠ .panic := by
  induction os with
  | nil => simp
  | cons o os ih =>
    cases o with
    | ok r => simpa [map_eq_panic_iff] using ih fun o' ho' => h o' (List.mem_cons_of_mem _ ho')
    | terr => simp
    | panic => exact absurd rfl (h _ (List.mem_cons_self ..))

/-- the encoder prints one line per item, and the line decodes to the item -/
theorem all_map_enc {α β : Type} {f : β → Outcome α} {enc : α → β} (xs : List α)
    (h : ∀ x ∈ xs, f (enc x) = .ok x) : all ((xs.map enc).map f) = .ok xs := by
  rw [all_eq_ok_iff, List.map_map]
  exact List.map_congr_left fun x hx => h x hx

theorem all_map_ne_panic {α β : Type} {f : β → Outcome α} (h : ∀ b, f b ≠ .panic) (l : List β) :
    all (l.map f) ≠ .panic :=
  all_ne_panic fun _ ho => by
    obtain ⟨b, _, rfl⟩ := List.mem_map.mp ho
    exact h b

end Mpd.Typed.Outcome
