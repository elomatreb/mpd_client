import MpdProofs.Lemmas.Prog
import MpdProofs.Lemmas.Bytes
import Mpd.Typed.Records
/-!
Every record decoder reads a fixed list of pairwise distinct keys (`ReadsKeys`), hence is a function of
the first-occurrence lookup of the frame it is given — on every frame, duplicate keys included —
and never panics.
-/
namespace Mpd.Typed

def statusRestKeys : List Bytes :=
  [K.volume, K.state, K.repeat_, K.random, K.consume, K.playlistlength, K.playlist, K.song, K.songid,
   K.nextsong, K.nextsongid, K.elapsed, K.bitrate, K.xfade, K.updating_db, K.error, K.partition]

theorem statusRest_reads (s d) : ReadsKeys statusRestKeys (statusRest s d) :=
  .pOptional fun _ => .pValue fun _ => .pValue fun _ => .pValue fun _ => .pValue fun _ =>
  .pOptional fun _ => .pOptional fun _ => .pSongIdentifier fun _ => .pSongIdentifier fun _ =>
  .pOptional fun _ => .pOptional fun _ => .pOptional fun _ => .pOptional fun _ =>
  .pRaw fun _ => .pRaw fun _ => .ok _

/-- the `duration` branch does not ask for `Time` -/
theorem statusProg_reads : ReadsKeys (K.single :: K.duration :: K.Time :: statusRestKeys) statusProg := by
  refine .get _ _ _ fun single? => ?_
  split
  · exact .terr
  refine .get _ _ _ fun dur? => ?_
  split
  · split
    · exact .terr
    · exact .skip _ _ _ (statusRest_reads _ _)
  · refine .get _ _ _ fun time? => ?_
    split
    · split
      · exact .terr
      · exact statusRest_reads _ _
    · exact statusRest_reads _ _

theorem statsProg_reads :
    ReadsKeys [K.artists, K.albums, K.songs, K.uptime, K.playtime, K.db_playtime, K.db_update] statsProg :=
  .pValue fun _ => .pValue fun _ => .pValue fun _ => .pValue fun _ => .pValue fun _ => .pValue fun _ =>
  .pValue fun _ => .ok _
theorem replayGainProg_reads : ReadsKeys [K.replay_gain_mode] replayGainProg := .pValue fun _ => .ok _
theorem countProg_reads : ReadsKeys [K.songs, K.playtime] countProg := .pValue fun _ => .pValue fun _ => .ok _
theorem updateProg_reads : ReadsKeys [K.updating_db] updateProg := .pValue fun _ => .ok _
theorem addIdProg_reads : ReadsKeys [K.Id] addIdProg := .pValue fun _ => .ok _

theorem decStatus_eq (f : AFrame) : decStatus f = statusProg.runF f.find := by
  refine statusProg_reads.run_eq_runF ?_ f
  simp only [statusRestKeys, K.single, K.duration, K.Time, K.volume, K.state, K.repeat_, K.random, K.consume,
    K.playlistlength, K.playlist, K.song, K.songid, K.nextsong, K.nextsongid, K.elapsed, K.bitrate, K.xfade,
    K.updating_db, K.error, K.partition]
  repeat rw [str_ofList]
  decide +kernel
theorem decStats_eq (f : AFrame) : decStats f = statsProg.runF f.find := by
  refine statsProg_reads.run_eq_runF ?_ f
  simp only [K.artists, K.albums, K.songs, K.uptime, K.playtime, K.db_playtime, K.db_update]
  repeat rw [str_ofList]
  decide +kernel
theorem decReplayGain_eq (f : AFrame) : decReplayGain f = replayGainProg.runF f.find :=
  replayGainProg_reads.run_eq_runF (by decide) f
theorem playtime_ne_songs : K.playtime ≠ K.songs := by decide +kernel
/-- a use site unfolds its own key list to this form first: unifying two key lists as they stand evaluates the names -/
theorem countKeys_nodup : [K.songs, K.playtime].Nodup := by decide +kernel
theorem decCount_eq (f : AFrame) : decCount f = countProg.runF f.find := countProg_reads.run_eq_runF countKeys_nodup f
theorem decUpdate_eq (f : AFrame) : decUpdate f = updateProg.runF f.find :=
  updateProg_reads.run_eq_runF (by decide) f
theorem decAddId_eq (f : AFrame) : decAddId f = addIdProg.runF f.find := addIdProg_reads.run_eq_runF (by decide) f

/-- `str::split_once` splits at the FIRST occurrence -/
theorem splitOnce_eq_some_iff {c : UInt8} {s a b : Bytes} :
    splitOnce c s = some (a, b) ↔ s = a ++ c :: b ∧ c ∉ a := by
  constructor
  · intro h
    induction s generalizing a with
    | nil => simp [splitOnce] at h
    | cons x xs ih =>
      unfold splitOnce at h
      by_cases hx : x = c
      · simp only [hx, if_true, Option.some.injEq, Prod.mk.injEq] at h
        obtain ⟨rfl, rfl⟩ := h
        simp [hx]
      · simp only [hx, if_false] at h
        cases hs : splitOnce c xs with
        | none => simp [hs] at h
        | some p =>
          simp only [hs, Option.some.injEq, Prod.mk.injEq] at h
          obtain ⟨rfl, rfl⟩ := h
          obtain ⟨h1, h2⟩ := ih hs
          refine ⟨by rw [h1]; simp, ?_⟩
          simp only [List.mem_cons, not_or]
          exact ⟨fun e => hx e.symm, h2⟩
  · rintro ⟨rfl, h⟩
    induction a with
    | nil => simp [splitOnce]
    | cons x xs ih =>
      simp only [List.mem_cons, not_or] at h
      have hx : ¬ x = c := fun e => h.1 e.symm
      simp [splitOnce, hx, ih h.2]

theorem splitOnce_eq_none_of_not_mem {c : UInt8} {s : Bytes} (h : c ∉ s) : splitOnce c s = none := by
  cases hs : splitOnce c s with
  | none => rfl
  | some p => exact absurd (by rw [(splitOnce_eq_some_iff.mp hs).1]; simp) h

end Mpd.Typed
