import MpdProofs.Lemmas.Conn
import MpdProofs.Lemmas.Encode
/-!
A call that reports `invalid`, or ends for lack of bytes, leaves a connection state (builder state carried from call
to call, receive buffer) that is a fixpoint of `feed` (`feed_invalid_idem`, `feed_pending_idem`). Hence the end
repeats once the transport has nothing more (the model side of the oracle clause "the result after the end repeats
the end"), and `invalid` repeats whatever the transport still delivers.
-/
namespace Mpd.Conn
open Mpd.Builder

theorem final_invalid {σ σ' : BState} {buf rest : Bytes} {out : Out} (h : feed σ buf = (σ', rest, out))
    (hi : finalItem out = .invalid) : feed σ' rest = (σ', rest, .invalid) := by
  cases out with
  | invalid => exact feed_invalid_idem h
  | _ => cases hi

theorem recvLoopA_leaves {σ σ' : BState} {buf buf' : Bytes} {cs cs' : List Bytes} {t : Term} {it : Item}
    (h : recvLoopA σ buf cs t = (it, buf', cs', σ')) :
    (it = .invalid → feed σ' buf' = (σ', buf', .invalid)) ∧ ∀ j, it = .io j → t = .ioerr j := by
  fun_induction recvLoopA σ buf cs t with
  | case2 σ buf cs t σ₁ rest hf =>
    cases h
    exact ⟨fun _ => feed_invalid_idem hf, nofun⟩
  | case4 σ buf t σ₁ rest hf =>
    cases h
    exact ⟨fun hi => absurd hi (termItem_ne_invalid _ _ _), fun _ => termItem_io⟩
  | case5 σ buf t σ₁ rest hf c cs hc =>
    cases h
    exact ⟨fun hi => absurd hi (eofItem_ne_invalid _ _), fun j hj => absurd hj (eofItem_ne_io _ _ _)⟩
  | case6 σ buf t σ₁ rest hf c cs hc ih => exact ih h
  | _ =>  -- a response, `panic`
    cases h
    exact ⟨nofun, nofun⟩

theorem recvLoopS_leaves {fuel : Nat} {σ σ' : BState} {b b' : SBuf} {cs cs' : List Bytes} {t : Term} {it : Item}
    (h : recvLoopS fuel σ b cs t = (it, b', cs', σ')) (hi : it = .invalid) :
    feed σ' b'.data = (σ', b'.data, .invalid) ∧ ¬ b'.cap < b'.data.length := by
  subst hi
  fun_induction recvLoopS fuel σ b cs t with
  | case4 fuel σ b cs t hcap σ₁ rest hf =>
    cases h
    exact ⟨feed_invalid_idem hf, fun hlt => hcap (Nat.lt_of_lt_of_le hlt (feed_leaves hf).1)⟩
  | case6 fuel σ b cs t hcap σ₁ rest hf hrc => exact absurd (congrArg (·.1) h) (termItem_ne_invalid _ _ _)
  | case7 fuel σ b cs t hcap σ₁ rest hf got cs₁ hrc hg => exact absurd (congrArg (·.1) h) (eofItem_ne_invalid _ _)
  | case8 fuel σ b cs t hcap σ₁ rest hf got cs₁ hrc hg ih => exact ih h
  | _ => cases h  -- out of fuel, buffer overrun, a response, `panic`: another item

/-- **invalid is final (async)**: every later call reports `invalid` again and consumes nothing, whatever the transport
still delivers and however it ends -/
theorem recvLoopA_invalid_forever (cs : List Bytes) (t : Term) (σ : BState) (buf : Bytes)
    (h : (recvLoopA σ buf cs t).1 = .invalid) (cs' : List Bytes) (t' : Term) :
    recvLoopA (recvLoopA σ buf cs t).2.2.2 (recvLoopA σ buf cs t).2.1 cs' t' =
      (.invalid, (recvLoopA σ buf cs t).2.1, cs', (recvLoopA σ buf cs t).2.2.2) :=
  recvLoopA_final ((recvLoopA_leaves (rfl : recvLoopA σ buf cs t = (_, _, _, _))).1 h) Out.noConfusion cs' t'

theorem recvLoopA_nil_fix {σ σ' : BState} {buf buf' : Bytes} {cs' : List Bytes} {t : Term} {it : Item}
    (h : recvLoopA σ buf [] t = (it, buf', cs', σ')) (hr : it.isResp = false) :
    cs' = [] ∧ recvLoopA σ' buf' [] t = (it, buf', [], σ') := by
  rcases feed_pending_or_final σ buf with ⟨σ₁, rest, hf⟩ | ⟨σ₁, rest, out, hf, ho⟩
  · rw [recvLoopA_pending_nil hf] at h
    cases h
    exact ⟨rfl, recvLoopA_pending_nil (feed_pending_idem hf) t⟩
  · rw [recvLoopA_final hf ho] at h
    cases h
    cases out with
    | invalid => exact ⟨rfl, recvLoopA_final (feed_invalid_idem hf) ho [] t⟩
    | pending => exact absurd rfl ho
    | done r => cases hr
    | panic => exact absurd (by rw [hf]) (feed_no_panic σ buf)

/-- **sticky end (async)**: with the script exhausted, calling again from the state a call without a response left
returns the same item and the same state -/
theorem recvLoopA_sticky (σ : BState) (buf : Bytes) (term : Term)
    (h : ∀ r, (recvLoopA σ buf [] term).1 ≠ .resp r) :
    recvLoopA (recvLoopA σ buf [] term).2.2.2 (recvLoopA σ buf [] term).2.1 [] term = recvLoopA σ buf [] term := by
  rcases hr : recvLoopA σ buf [] term with ⟨it, buf', cs', σ'⟩
  rw [hr] at h
  obtain ⟨rfl, hfix⟩ := recvLoopA_nil_fix hr (isResp_eq_false h)
  exact hfix

theorem sessionA_fix (n : Nat) {σ : BState} {buf : Bytes} {t : Term} {it : Item}
    (hfix : recvLoopA σ buf [] t = (it, buf, [], σ)) (hr : it.isResp = false) :
    sessionA (n + 1) n σ buf [] t = List.replicate (n + 1) it := by
  induction n with
  | zero => rw [sessionA_succ 0 0 hfix, hr]; rfl
  | succ n ih => rw [sessionA_succ (n + 1) (n + 1) hfix, hr, List.replicate_succ, ← ih]; rfl

theorem sessionA_sticky (extra : Nat) (σ : BState) (buf : Bytes) (term : Term)
    (h : ∀ r, (recvLoopA σ buf [] term).1 ≠ .resp r) :
    sessionA (extra + 1) extra σ buf [] term = List.replicate (extra + 1) (recvLoopA σ buf [] term).1 := by
  rcases hr : recvLoopA σ buf [] term with ⟨it, buf', cs', σ'⟩
  rw [hr] at h
  have hnr := isResp_eq_false h
  obtain ⟨rfl, hfix⟩ := recvLoopA_nil_fix hr hnr
  rw [sessionA_succ extra extra hr, hnr]
  cases extra with
  | zero => rfl
  | succ e => exact congrArg _ (sessionA_fix e hfix hnr)

/-- as `recvLoopA_invalid_forever`, whatever the fuel of the later call -/
theorem recvLoopS_invalid_forever (f : Nat) (cs : List Bytes) (t : Term) (σ : BState) (b : SBuf)
    (h : (recvLoopS f σ b cs t).1 = .invalid) (f' : Nat) (cs' : List Bytes) (t' : Term) :
    recvLoopS (f' + 1) (recvLoopS f σ b cs t).2.2.2 (recvLoopS f σ b cs t).2.1 cs' t' =
      (.invalid, (recvLoopS f σ b cs t).2.1, cs', (recvLoopS f σ b cs t).2.2.2) := by
  obtain ⟨hl, hcap⟩ := recvLoopS_leaves (rfl : recvLoopS f σ b cs t = (_, _, _, _)) h
  exact recvLoopS_final hcap hl Out.noConfusion f' cs' t'

theorem recvLoopS_nil_fix {f : Nat} {σ σ' : BState} {b b' : SBuf} {cs' : List Bytes} {t : Term} {it : Item}
    (hcap : ¬ b.cap < b.data.length) (h : recvLoopS (f + 1) σ b [] t = (it, b', cs', σ')) (hr : it.isResp = false) :
    cs' = [] ∧ ¬ b'.cap < b'.data.length ∧ ∀ f2, recvLoopS (f2 + 1) σ' b' [] t = (it, b', [], σ') := by
  rcases feed_pending_or_final σ b.data with ⟨σ₁, rest, hf⟩ | ⟨σ₁, rest, out, hf, ho⟩
  · have hrl := (feed_leaves hf).1
    have hcap' : ¬ b.cap < rest.length := fun hlt => hcap (Nat.lt_of_lt_of_le hlt hrl)
    rw [recvLoopS_pending hcap hf] at h
    cases h
    exact ⟨rfl, hcap', fun f2 => recvLoopS_pending (b := { b with data := rest }) hcap' (feed_pending_idem hf) f2 [] t⟩
  · have hrl := (feed_leaves hf).1
    have hcap' : ¬ b.cap < rest.length := fun hlt => hcap (Nat.lt_of_lt_of_le hlt hrl)
    rw [recvLoopS_final hcap hf ho] at h
    cases h
    cases out with
    | invalid =>
      exact ⟨rfl, hcap', fun f2 => recvLoopS_final (b := { b with data := rest }) hcap' (feed_invalid_idem hf) ho f2 [] t⟩
    | pending => exact absurd rfl ho
    | done r => cases hr
    | panic => exact absurd (by rw [hf]) (feed_no_panic σ b.data)

/-- **sticky end (blocking)**: the same for the fixed, doubling buffer, within its capacity -/
theorem recvLoopS_sticky (f1 f2 : Nat) (σ : BState) (b : SBuf) (term : Term) (hcap : ¬ b.cap < b.data.length)
    (h : ∀ r, (recvLoopS (f1 + 1) σ b [] term).1 ≠ .resp r) :
    recvLoopS (f2 + 1) (recvLoopS (f1 + 1) σ b [] term).2.2.2 (recvLoopS (f1 + 1) σ b [] term).2.1 [] term =
      recvLoopS (f1 + 1) σ b [] term := by
  rcases hr : recvLoopS (f1 + 1) σ b [] term with ⟨it, b', cs', σ'⟩
  rw [hr] at h
  obtain ⟨rfl, _, hfix⟩ := recvLoopS_nil_fix hcap hr (isResp_eq_false h)
  exact hfix f2

theorem sessionS_fix (n : Nat) {σ : BState} {b : SBuf} {t : Term} {it : Item}
    (hfix : recvLoopS (scriptLen ([] : List Bytes) + 1) σ b [] t = (it, b, [], σ)) (hr : it.isResp = false) :
    sessionS (n + 1) n σ b [] t = List.replicate (n + 1) it := by
  induction n with
  | zero => rw [sessionS_succ 0 0 hfix, hr]; rfl
  | succ n ih => rw [sessionS_succ (n + 1) (n + 1) hfix, hr, List.replicate_succ, ← ih]; rfl

theorem sessionS_sticky (extra : Nat) (σ : BState) (b : SBuf) (term : Term) (hcap : ¬ b.cap < b.data.length)
    (h : ∀ r, (recvS σ b [] term).1 ≠ .resp r) :
    sessionS (extra + 1) extra σ b [] term = List.replicate (extra + 1) (recvS σ b [] term).1 := by
  rcases hr : recvS σ b [] term with ⟨it, b', cs', σ'⟩
  rw [hr] at h
  have hnr := isResp_eq_false h
  obtain ⟨rfl, _, hfix⟩ := recvLoopS_nil_fix hcap hr hnr
  rw [sessionS_succ extra extra hr, hnr]
  cases extra with
  | zero => rfl
  | succ e => exact congrArg _ (sessionS_fix e (hfix _) hnr)

end Mpd.Conn
