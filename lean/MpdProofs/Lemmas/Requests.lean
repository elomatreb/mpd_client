import MpdProofs.Lemmas.Commands
import MpdProofs.Lemmas.List
/-!
Lemmas for C15, specification side: what `Spec.Req`'s readers make of the renderings. `Part.sem` is what a
piece, as rendered, means to MPD, and MPD reads its token back as that; the documented meanings of a command
are the meanings of its pieces, by unfolding the two tables. Only the ranges need an argument:
`SongRange::new_usize` is the exact interval of the Rust range clamped to the integer maximum.
-/
namespace Mpd.ReqL
open Mpd.Cmd Mpd.Commands Mpd.CmdsL Spec.Req Mpd.TokL

theorem takeWhile_digits_all {ds : Bytes} (h : ds.all isDigit = true) :
    ds.takeWhile isDigit = ds ∧ ds.dropWhile isDigit = [] := by
  simpa using takeWhile_digits ds [] h (by simp)

theorem isNumeral_natToDec (n : Nat) : isNumeral (natToDec n) = true := by
  obtain ⟨h1, h2, _⟩ := natToDec_spec n
  simp [isNumeral, h1, h2]

theorem readNat_natToDec (n : Nat) : readNat (natToDec n) = some n := by
  simp [readNat, isNumeral_natToDec, (natToDec_spec n).2.2]

theorem accepts_str (s : Bytes) : (ArgSem.str s).accepts s = true := beq_self_eq_true s
theorem accepts_kw (w : Bytes) : (ArgSem.kw w).accepts w = true := beq_self_eq_true w
theorem accepts_tag (n : Bytes) : (ArgSem.tag n).accepts n = true := beq_self_eq_true n

theorem accepts_bool (b : Bool) : (ArgSem.bool b).accepts (renderBool b) = true := by
  cases b <;> decide

theorem accepts_nat (n : Nat) : (ArgSem.nat n).accepts (renderNat n) = true := by
  simp [ArgSem.accepts, renderNat, readNat_natToDec]

theorem accepts_pos (p : PositionOrRelative) : (posArg p).accepts p.render = true := by
  cases p with
  | absolute n => exact accepts_nat n
  | beforeCurrent n =>
    show (MINUS == signByte true && readNat (natToDec n) == some n) = true
    rw [readNat_natToDec, beq_self_eq_true]
    rfl
  | afterCurrent n =>
    show (PLUS == signByte false && readNat (natToDec n) == some n) = true
    rw [readNat_natToDec, beq_self_eq_true]
    rfl

theorem readRange_render (r : SongRange) : readRange r.render = some (r.lo, r.hi) := by
  obtain ⟨h1, h2, h3⟩ := natToDec_spec r.lo
  have hc : isDigit 58 = false := by decide
  have hne : natToDec r.lo ≠ [] := h1
  unfold SongRange.render readRange
  rw [show COLON = 58 from rfl]
  cases hh : r.hi with
  | none =>
    obtain ⟨ht, hd⟩ := span_eq_iff (r := []).mpr ⟨h2, rfl, hc⟩
    simp only [ht, hd]
    simp [hne, h3]
  | some to =>
    obtain ⟨g1, g2, g3⟩ := natToDec_spec to
    obtain ⟨ht, hd⟩ := span_eq_iff (r := natToDec to).mpr ⟨h2, rfl, hc⟩
    simp only [List.append_assoc, List.singleton_append, ht, hd]
    simp [hne, g1, g2, h3, g3]

theorem new_eq_newUsize (s e : Bound) : SongRange.new s e = SongRange.newUsize s e := by
  cases s <;> cases e <;> rfl

theorem canon_some (max lo b : Nat) :
    canon max lo (some b) = if lo < min b max then some (lo, min b max) else none := rfl
theorem canon_none (max lo : Nat) : canon max lo none = if lo < max then some (lo, max) else none := rfl

theorem satSucc_eq_min (n : Nat) : satSucc n = min (n + 1) U64MAX := by
  unfold satSucc; generalize U64MAX = M; split <;> omega

/-- the range `lo:hi` with both ends cut down to `max` -/
def clamp (max lo : Nat) (hi : Option Nat) : SongRange := ⟨min lo max, hi.map (min · max)⟩

/-- clamping the exact half-open interval is all `saturating_add(1)` does; every statement about rendered
ranges is then one about `clamp`, for an arbitrary maximum -/
theorem newUsize_eq_clamp (s e : Bound) (hs : s.typed = true) (he : e.typed = true) :
    SongRange.newUsize s e = clamp U64MAX (exactLo s) (exactHi e) := by
  -- the two ends are independent: three cases each
  have lo : (SongRange.newUsize s e).lo = min (exactLo s) U64MAX := by
    cases s <;> simp only [Bound.typed, decide_eq_true_eq] at hs <;>
      simp only [SongRange.newUsize, exactLo, satSucc_eq_min] <;> generalize U64MAX = M at * <;> omega
  have hi : (SongRange.newUsize s e).hi = (exactHi e).map (min · U64MAX) := by
    cases e <;> simp only [Bound.typed, decide_eq_true_eq] at he <;>
      simp only [SongRange.newUsize, exactHi, satSucc_eq_min, Option.map, Option.some.injEq] <;>
      generalize U64MAX = M at * <;> omega
  rw [clamp, ← lo, ← hi]

theorem rangeDenote_exact (s e : Bound) (p : Nat) :
    rangeDenote (exactLo s) (exactHi e) p ↔ boundsContain s e p := by
  -- on both sides a condition on the start and one on the end
  refine and_congr ?_ ?_
  · cases s <;> simp only [exactLo, Nat.zero_le] <;> omega
  · cases e <;> simp only [exactHi] <;> omega

theorem rangeDenote_clamp (max lo : Nat) (hi : Option Nat) (p : Nat) (hp : p < max) :
    rangeDenote (clamp max lo hi).lo (clamp max lo hi).hi p ↔ rangeDenote lo hi p := by
  cases hi <;> simp only [clamp, Option.map, rangeDenote, and_true] <;> omega

theorem canon_clamp (max lo : Nat) (hi : Option Nat) :
    canon max (clamp max lo hi).lo (clamp max lo hi).hi = canon max lo hi := by
  cases hi with
  | none =>
    simp only [clamp, Option.map, canon_none]
    by_cases h : lo < max
    · rw [Nat.min_eq_left (Nat.le_of_lt h)]
    · rw [Nat.min_eq_right (Nat.le_of_not_lt h), if_neg (Nat.lt_irrefl _), if_neg h]
  | some b =>
    simp only [clamp, Option.map, canon_some]
    have hb : min (min b max) max = min b max := by omega
    rw [hb]
    by_cases h : lo < min b max
    · rw [Nat.min_eq_left (by omega)]
    · rw [if_neg h, if_neg (by omega)]

theorem rangeDenote_clamp_max (max lo : Nat) (hi : Option Nat) :
    rangeDenote (clamp max lo hi).lo (clamp max lo hi).hi max ↔ hi = none := by
  cases hi <;> simp only [clamp, Option.map, rangeDenote, and_true, reduceCtorEq, iff_false, iff_true] <;> omega

theorem wellFormed_clamp {max lo : Nat} {hi : Option Nat} (h : ∀ b, hi = some b → lo ≤ b) :
    wellFormedRange (clamp max lo hi).lo (clamp max lo hi).hi = true := by
  cases hi with
  | none => rfl
  | some b =>
    have := h b rfl
    exact decide_eq_true (by simp only [clamp, Option.map]; omega)

theorem empty_of_malformed_clamp {max lo : Nat} {hi : Option Nat}
    (h : wellFormedRange (clamp max lo hi).lo (clamp max lo hi).hi = false) (p : Nat) : ¬ rangeDenote lo hi p := by
  cases hi with
  | none => simp [clamp, wellFormedRange] at h
  | some b =>
    have := of_decide_eq_false h
    simp only [clamp, Option.map] at this
    simp only [rangeDenote]; omega

theorem canon_newUsize (s e : Bound) (hs : s.typed = true) (he : e.typed = true) :
    canon U64MAX (SongRange.newUsize s e).lo (SongRange.newUsize s e).hi =
      canon U64MAX (exactLo s) (exactHi e) := by
  rw [newUsize_eq_clamp s e hs he, canon_clamp]

theorem pad3_spec (m : Nat) (hm : m < 1000) : (F64.pad3 m).length = 3 ∧ digitsVal (F64.pad3 m) = m := by
  have hv := (natToDec_spec m).2.2
  have z2 : digitsVal (str "00") = 0 := by decide
  have z1 : digitsVal (str "0") = 0 := by decide
  unfold F64.pad3
  by_cases h1 : m < 10
  · rw [if_pos h1, digitsVal_append, List.length_append, natToDec_length m 0 h1 (.inl rfl), hv, z2, Nat.zero_mul,
      Nat.zero_add m]
    exact ⟨rfl, rfl⟩
  by_cases h2 : m < 100
  · rw [if_neg h1, if_pos h2, digitsVal_append, List.length_append,
      natToDec_length m 1 h2 (.inr (Nat.le_of_not_lt h1)), hv, z1, Nat.zero_mul, Nat.zero_add m]
    exact ⟨rfl, rfl⟩
  · rw [if_neg h1, if_neg h2, List.nil_append, natToDec_length m 2 hm (.inr (Nat.le_of_not_lt h2)), hv]
    exact ⟨rfl, rfl⟩

theorem readDecimal_renderDuration (secs nanos : Nat) :
    readDecimal (F64.renderDuration secs nanos) = some (F64.millisRendered secs nanos, 3) := by
  unfold F64.renderDuration
  generalize F64.millisRendered secs nanos = t
  obtain ⟨h1, h2, h3⟩ := natToDec_spec (t / 1000)
  have hm : t % 1000 < 1000 := Nat.mod_lt _ (by decide)
  obtain ⟨p1, p2⟩ := pad3_spec (t % 1000) hm
  have hp := pad3_digits (t % 1000)
  have hc : isDigit 46 = false := by decide
  obtain ⟨ht, hd⟩ := span_eq_iff (r := F64.pad3 (t % 1000)).mpr ⟨h2, rfl, hc⟩
  have hne : (natToDec (t / 1000)).isEmpty = false := by simpa using h1
  have hne2 : (F64.pad3 (t % 1000)).isEmpty = false := by
    cases h : F64.pad3 (t % 1000) with
    | nil => rw [h] at p1; simp at p1
    | cons _ _ => rfl
  simp only [readDecimal, List.append_assoc, List.singleton_append, ht, hd, hne, hne2, hp, p1]
  have hv : digitsVal (natToDec (t / 1000) ++ F64.pad3 (t % 1000)) = t := by
    rw [digitsVal_append, h3, p1, p2]; exact Nat.div_add_mod' t 1000
  simp [hv]

/-- the rendered duration is within 1 ms of the exact value -/
def durOk (d : Dur) : Bool := within1ms (F64.millisRendered d.secs d.nanos) 3 (nanosOf d)

theorem accepts_dur (d : Dur) (h : durOk d = true) : (ArgSem.time none (nanosOf d)).accepts d.render = true := by
  simp only [ArgSem.accepts, Dur.render, Option.bind_some, readDecimal_renderDuration]
  exact h

theorem accepts_signed (neg : Bool) (d : Dur) (h : durOk d = true) :
    (ArgSem.time (some neg) (nanosOf d)).accepts (signByte neg :: d.render) = true := by
  simp only [ArgSem.accepts, Dur.render, beq_self_eq_true, if_true, Option.bind_some, readDecimal_renderDuration]
  exact h

theorem specOp_eq (op : Operator) : Spec.Req.specOp op = Filter.specOp op := by cases op <;> rfl

theorem exprOfList_eq (fs : List FilterType) (h : ∀ f ∈ fs, exprOf f = Filter.mirror f) :
    exprOfList fs = Filter.mirrorList fs := by
  induction fs with
  | nil => rfl
  | cons f fs ih =>
    simp only [exprOfList, Filter.mirrorList]
    rw [h f (by simp), ih fun g hg => h g (by simp [hg])]

theorem exprOf_eq_mirror : ∀ f : FilterType, exprOf f = Filter.mirror f := by
  intro f
  induction f using Filter.FilterType.induct with
  | tag t op v => simp [exprOf, Filter.mirror, specOp_eq]
  | not f ih => simp [exprOf, Filter.mirror, ih]
  | and fs ih => simp [exprOf, Filter.mirror, exprOfList_eq fs ih]

open Spec.Filter in
mutual
theorem beq_refl : ∀ e : Expr, Expr.beq e e = true
  | .tag n o v => by
    show (n == n && o == o && v == v) = true
    simp
  | .not e => beq_refl e
  | .and es => beqList_refl es
theorem beqList_refl : ∀ es : List Expr, Expr.beqList es es = true
  | [] => rfl
  | e :: es => by
    show (Expr.beq e e && Expr.beqList es es) = true
    rw [beq_refl e, beqList_refl es, Bool.and_self]
end

theorem accepts_filter {f : FilterType} (h : filterOk f = true) :
    (ArgSem.filter (exprOf f)).accepts (Filter.inner f) = true := by
  obtain ⟨hwf, hw, hk, hn⟩ := (filterOk_iff f).mp h
  simp [ArgSem.accepts, Filter.parseFilterTop_inner f hwf hw hk hn, exprOf_eq_mirror, beq_refl]

theorem acceptsAll_append {xs ys : List ArgSem} {ts us : List Bytes}
    (h1 : acceptsAll xs ts = true) (h2 : acceptsAll ys us = true) : acceptsAll (xs ++ ys) (ts ++ us) = true := by
  induction xs generalizing ts with
  | nil =>
    cases ts with
    | nil => simpa using h2
    | cons t ts => simp [acceptsAll] at h1
  | cons x xs ih =>
    cases ts with
    | nil => simp [acceptsAll] at h1
    | cons t ts =>
      simp only [acceptsAll, Bool.and_eq_true] at h1
      simp only [List.cons_append, acceptsAll, Bool.and_eq_true]
      exact ⟨h1.1, ih h1.2⟩

/-- a fixed table, evaluated row by row. The literal `command_list` inside `NameOk` is written out once, in
front of the case split: the kernel's evaluation of it would cost more than the rest of a row. -/
theorem shape_nameOk (c : PCmd) : NameOk (shape c).1 := by
  rw [nameOk_iff, str_ofList]
  cases c with
  | queueSong s => cases s <;> (simp only [shape]; rw [str_ofList]; decide +kernel)
  | seekTo s d => cases s <;> (simp only [shape]; rw [str_ofList]; decide +kernel)
  | playSong s => cases s <;> (simp only [shape]; rw [str_ofList]; decide +kernel)
  | move f t => cases f <;> (simp only [shape]; rw [str_ofList]; decide +kernel)
  | _ => (simp only [shape]; rw [str_ofList]; decide +kernel)

theorem expect_name (c : PCmd) : (expect c).1 = (shape c).1 := by
  cases c with
  | queueSong s => cases s <;> rfl
  | seekTo s d => cases s <;> rfl
  | playSong s => cases s <;> rfl
  | move f t => cases f <;> rfl
  | seek m => cases m <;> rfl
  | _ => rfl

/-- a keyword piece holds a `Plain` word; nothing is asked of the other pieces -/
def kwOk : Part → Bool
  | .kw w => decide (Plain w)
  | _ => true

theorem all_optParts {α : Type} (o : Option α) (f : α → List Part) (p : Part → Bool) :
    (optParts o f).all p = o.all fun a => (f a).all p := by
  cases o <;> rfl

theorem shape_kwOk (c : PCmd) : (shape c).2.all kwOk = true := by
  cases c
  case queueSong s => cases s <;> rfl
  case seekTo s d => cases s <;> rfl
  case playSong s => cases s <;> rfl
  case move f t => cases f <;> rfl
  case listAllIn dir => cases dir <;> rfl
  case setSingle m => cases m <;> rfl
  case setReplayGainMode m => cases m <;> rfl
  case stickerFind uri n f =>
    cases f with
    | none => rfl
    | some p => obtain ⟨op, v⟩ := p; cases op <;> rfl
  -- optional and repeated pieces: the keywords in front of them do not depend on the value
  case find | list | countGrouped | tagTypesDisable | tagTypesEnable | add | loadPlaylist | addToPlaylist | update |
      rescan =>
    simp (decide := true) only [shape, all_optParts, List.all_cons, List.all_append, List.all_nil, List.all_map,
      List.all_flatMap, Function.comp_def, List.all_eq_true, Option.all_eq_true, kwOk, Bool.and_true, Bool.true_and,
      Bool.and_eq_true, implies_true, and_self]
  all_goals rfl

theorem shape_kw_plain {c : PCmd} {w : Bytes} (h : Part.kw w ∈ (shape c).2) : Plain w := by
  simpa [kwOk] using List.all_eq_true.mp (shape_kwOk c) _ h

/-- what a piece, as rendered, means to MPD -/
def _root_.Mpd.CmdsL.Part.sem : Part → ArgSem
  | .str s => .str s
  | .kw w => .kw w
  | .nat n => .nat n
  | .pos p => posArg p
  | .range r => .range r.lo r.hi
  | .dur d => .time none (nanosOf d)
  | .seek (.absolute d) => .time none (nanosOf d)
  | .seek (.forward d) => .time (some false) (nanosOf d)
  | .seek (.backward d) => .time (some true) (nanosOf d)
  | .bool b => .bool b
  | .tag t => .tag t.name
  | .sortTag t => .tag t.name
  | .filter f => .filter (exprOf f)

/-- the classes of values for which reading back is proved -/
def _root_.Mpd.CmdsL.Part.semOk : Part → Bool
  | .dur d => durOk d
  | .seek m => durOk m.dur
  | .filter f => filterOk f
  | _ => true

theorem accepts_sem {p : Part} (h : p.semOk = true) : (Part.sem p).accepts p.tok = true := by
  cases p with
  | str s => exact accepts_str s
  | kw w => exact accepts_kw w
  | nat n => exact accepts_nat n
  | pos q => exact accepts_pos q
  | range r => simp [Part.sem, Part.tok, ArgSem.accepts, readRange_render]
  | dur d => exact accepts_dur d h
  | seek m =>
    cases m with
    | absolute d => exact accepts_dur d h
    | forward d => exact accepts_signed false d h
    | backward d => exact accepts_signed true d h
  | bool b => exact accepts_bool b
  | tag t => exact accepts_tag _
  | sortTag t => exact accepts_tag _
  | filter f => exact accepts_filter h

theorem acceptsAll_sem (ps : List Part) (h : ∀ p ∈ ps, p.semOk = true) :
    acceptsAll (ps.map Part.sem) (ps.map Part.tok) = true := by
  induction ps with
  | nil => rfl
  | cons p ps ih =>
    simp only [List.map_cons, acceptsAll, Bool.and_eq_true]
    exact ⟨accepts_sem (h p (List.mem_cons_self ..)), ih fun q hq => h q (List.mem_cons_of_mem _ hq)⟩

/-- two meanings of one argument that no token tells apart -/
def ArgSem.Eqv (a b : ArgSem) : Prop := ∀ t, a.accepts t = b.accepts t

theorem ArgSem.Eqv.range {lo lo' : Nat} {hi hi' : Option Nat}
    (h : canon U64MAX lo hi = canon U64MAX lo' hi') : ArgSem.Eqv (.range lo hi) (.range lo' hi') := by
  intro t
  simp only [ArgSem.accepts, h]

/-- the same for the meanings of a whole argument list, against lists of tokens; `Eqv` argument by argument gives it -/
def SemEq (xs ys : List ArgSem) : Prop := ∀ ts, acceptsAll xs ts = acceptsAll ys ts

theorem SemEq.of_eq {xs ys : List ArgSem} (h : xs = ys) : SemEq xs ys := fun _ => h ▸ rfl

theorem SemEq.cons {a b : ArgSem} {xs ys : List ArgSem} (h : ArgSem.Eqv a b) (t : SemEq xs ys) :
    SemEq (a :: xs) (b :: ys) := by
  intro ts
  cases ts with
  | nil => rfl
  | cons u us => simp only [acceptsAll, h u, t us]

theorem SemEq.skip (a : ArgSem) {xs ys : List ArgSem} (t : SemEq xs ys) : SemEq (a :: xs) (a :: ys) :=
  .cons (fun _ => rfl) t

theorem eqv_boundsU (s e : Bound) (h : (s.typed && e.typed) = true) :
    ArgSem.Eqv (boundsArg s e) (Part.sem (.range (SongRange.newUsize s e))) := by
  rw [Bool.and_eq_true] at h
  exact .range (canon_newUsize s e h.1 h.2).symm

theorem eqv_bounds (s e : Bound) (h : (s.typed && e.typed) = true) :
    ArgSem.Eqv (boundsArg s e) (Part.sem (.range (SongRange.new s e))) := by
  rw [new_eq_newUsize]
  exact eqv_boundsU s e h

theorem eqv_single (p : Nat) (hp : decide (p ≤ U64MAX) = true) :
    ArgSem.Eqv (singleArg p) (Part.sem (.range (SongRange.new (.included p) (.included p)))) := by
  have := eqv_bounds (.included p) (.included p) (by simpa [Bound.typed] using hp)
  simpa [boundsArg, exactLo, exactHi, singleArg] using this

/-- by unfolding the two tables, except where the specification speaks of the bounds as given and the piece
holds the normalised range -/
theorem expect_sem (c : PCmd) (ht : c.typed = true) : SemEq (expect c).2 ((shape c).2.map Part.sem) := by
  cases c with
  | queueSong s => cases s <;> exact .of_eq rfl
  | playSong s => cases s <;> exact .of_eq rfl
  | seekTo s d => cases s <;> exact .of_eq rfl
  | seek m => cases m <;> exact .of_eq rfl
  | setSingle m => cases m <;> exact .of_eq rfl
  | setReplayGainMode m => cases m <;> exact .of_eq rfl
  | add uri pos => cases pos <;> exact .of_eq rfl
  | addToPlaylist pl url pos => cases pos <;> exact .of_eq rfl
  | update uri => cases uri <;> exact .of_eq rfl
  | rescan uri => cases uri <;> exact .of_eq rfl
  | listAllIn dir => cases dir <;> exact .of_eq rfl
  | countGrouped g f => cases f <;> exact .of_eq rfl
  | stickerFind uri n f =>
    cases f with
    | none => exact .of_eq rfl
    | some p => obtain ⟨op, v⟩ := p; cases op <;> exact .of_eq rfl
  | queueRange s e => exact .cons (eqv_bounds s e ht) (.of_eq rfl)
  | shuffleRange s e => exact .cons (eqv_bounds s e ht) (.of_eq rfl)
  | deleteRange s e => exact .cons (eqv_bounds s e ht) (.of_eq rfl)
  | removeFromPlaylistRange pl s e => exact .skip _ (.cons (eqv_bounds s e ht) (.of_eq rfl))
  | deletePosition p => exact .cons (eqv_single p ht) (.of_eq rfl)
  | move from' to =>
    cases from' with
    | id id => exact .of_eq rfl
    | position p => exact .cons (eqv_single p (Bool.and_eq_true_iff.mp ht).1) (.of_eq rfl)
    | range s e => exact .cons (eqv_bounds s e (Bool.and_eq_true_iff.mp ht).1) (.of_eq rfl)
  | loadPlaylist n r =>
    cases r with
    | none => exact .of_eq rfl
    | some w => exact .skip _ (.cons (eqv_boundsU _ _ ht) (.of_eq rfl))
  | find f sort window =>
    cases window with
    | none => cases sort <;> exact .of_eq rfl
    | some w =>
      cases sort with
      | none => exact .skip _ (.skip _ (.cons (eqv_boundsU _ _ ht) (.of_eq rfl)))
      | some t => exact .skip _ (.skip _ (.skip _ (.skip _ (.cons (eqv_boundsU _ _ ht) (.of_eq rfl)))))
  | list t f g =>
    refine .of_eq ?_
    unfold expect shape
    cases f <;> simp [optArgs, optParts, Part.sem, List.map_flatMap]
  | tagTypesDisable tags => exact .skip _ (.of_eq (List.map_map (g := Part.sem) (f := Part.tag)).symm)
  | tagTypesEnable tags => exact .skip _ (.of_eq (List.map_map (g := Part.sem) (f := Part.tag)).symm)
  | _ => exact .of_eq rfl

theorem semOk_of (c : PCmd) (hf : ∀ f ∈ PCmd.filters c, filterOk f = true)
    (hd : ∀ d ∈ PCmd.durs c, durOk d = true) : ∀ p ∈ (shape c).2, p.semOk = true := by
  intro p hp
  cases p with
  | dur d => exact hd d (mem_durs.mpr (.inl hp))
  | seek m => exact hd m.dur (mem_durs.mpr (.inr ⟨m, hp, rfl⟩))
  | filter f => exact hf f (mem_filters.mpr hp)
  | _ => rfl

theorem accepts_shape (c : PCmd) (ht : c.typed = true) (hf : ∀ f ∈ PCmd.filters c, filterOk f = true)
    (hd : ∀ d ∈ PCmd.durs c, durOk d = true) :
    acceptsAll (expect c).2 ((shape c).2.map Part.tok) = true :=
  (expect_sem c ht _).trans (acceptsAll_sem _ (semOk_of c hf hd))

theorem durs_typed (c : PCmd) (ht : c.typed = true) : ∀ d ∈ c.durs, d.typed = true := by
  intro d hd
  cases c
  case seekTo s d' => cases s <;> exact List.mem_singleton.mp hd ▸ (Bool.and_eq_true_iff.mp ht).2
  case seek m => exact List.mem_singleton.mp hd ▸ ht
  -- no other command has a duration among its pieces
  case queueSong s | playSong s => cases s <;> exact absurd hd List.not_mem_nil
  case move f t => cases f <;> exact absurd hd List.not_mem_nil
  case listAllIn dir => cases dir <;> exact absurd hd List.not_mem_nil
  case add _ o | loadPlaylist _ o | addToPlaylist _ _ o | update o | rescan o | countGrouped _ o | stickerFind _ _ o =>
    cases o <;> exact absurd hd List.not_mem_nil
  case find _ o w => cases o <;> cases w <;> exact absurd hd List.not_mem_nil
  case list _ f _ => cases f <;> simp [mem_durs, shape, optParts] at hd
  case tagTypesDisable | tagTypesEnable => simp [mem_durs, shape] at hd
  all_goals exact absurd hd List.not_mem_nil

end Mpd.ReqL
