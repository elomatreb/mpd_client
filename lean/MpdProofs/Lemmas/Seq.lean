import Mpd.Typed.Seq
import MpdProofs.Lemmas.Outcome
import MpdProofs.Lemmas.Records
/-!
The decoders of `Mpd/Typed/Seq.lean` that turn every line into one item (`listChannelsGo`,
`tagTypesGo`, `listFields`, `stickerListGo`) are `Outcome.all` of a function of one line, so what
`Outcome.all` yields says when they decode, what a result says about the frame, and that they do not
panic.
-/
namespace Mpd.Typed

theorem map_eq_map_of {α β γ δ : Type} {f : α → γ} {g : β → γ} {f' : α → δ} {g' : β → δ}
    (h : ∀ a b, f a = g b → f' a = g' b) {l : List α} {xs : List β} (hl : l.map f = xs.map g) :
    l.map f' = xs.map g' := by
  induction l generalizing xs with
  | nil => cases xs with
    | nil => rfl
    | cons _ _ => cases hl
  | cons a l ih => cases xs with
    | nil => cases hl
    | cons b xs =>
      obtain ⟨h1, h2⟩ := List.cons.inj hl
      rw [List.map_cons, List.map_cons, h a b h1, ih h2]

/-- `ListChannels::response` on one line -/
def channelLine (p : Bytes × Bytes) : Outcome Bytes := if p.1 ≠ str "channel" then .terr else .ok p.2

/-- `GetEnabledTagTypes::response` on one line -/
def tagTypeLine (p : Bytes × Bytes) : Outcome Tag :=
  if p.1 ≠ str "tagtype" then .terr
  else match Tag.tryFrom p.2 with
    | .error _ => .terr
    | .ok t => .ok t

/-- `List::from_frame` on one line -/
def listLine (p : Bytes × Bytes) : Outcome (Tag × Bytes) :=
  match Tag.tryFrom p.1 with
  | .error _ => .panic
  | .ok t => .ok (t, p.2)

/-- `StickerList::from_frame` on one line: the key is ignored, the value must be `name=value` -/
def stickerLine (p : Bytes × Bytes) : Outcome (Bytes × Bytes) := .ofOption (parseStickerValue p.2)

theorem listChannelsGo_eq (l : Fields) : listChannelsGo l = Outcome.all (l.map channelLine) := by
  induction l with
  | nil => rfl
  | cons p ps ih =>
    unfold listChannelsGo
    rw [ih, List.map_cons, channelLine]
    split
    · rfl
    · show _ = (Outcome.all (ps.map channelLine)).map _
      cases Outcome.all (ps.map channelLine) <;> rfl

theorem tagTypesGo_eq (l : Fields) : tagTypesGo l = Outcome.all (l.map tagTypeLine) := by
  induction l with
  | nil => rfl
  | cons p ps ih =>
    unfold tagTypesGo
    rw [ih, List.map_cons, tagTypeLine]
    split
    · rfl
    · cases Tag.tryFrom p.2 with
      | error e => rfl
      | ok t =>
        show _ = (Outcome.all (ps.map tagTypeLine)).map _
        cases Outcome.all (ps.map tagTypeLine) <;> rfl

theorem listFields_eq (l : Fields) : listFields l = Outcome.all (l.map listLine) := by
  induction l with
  | nil => rfl
  | cons p ps ih =>
    unfold listFields
    rw [ih, List.map_cons, listLine]
    cases Tag.tryFrom p.1 with
    | error e => rfl
    | ok t =>
      show _ = (Outcome.all (ps.map listLine)).map _
      cases Outcome.all (ps.map listLine) <;> rfl

theorem stickerListGo_eq (l : Fields) (m : SMap) :
    stickerListGo l m =
      (Outcome.all (l.map stickerLine)).map fun rows => rows.foldl (fun acc p => SMap.insert p.1 p.2 acc) m := by
  induction l generalizing m with
  | nil => rfl
  | cons p ps ih =>
    unfold stickerListGo
    rw [List.map_cons, stickerLine]
    cases parseStickerValue p.2 with
    | none => rfl
    | some q =>
      show stickerListGo ps (SMap.insert q.1 q.2 m) = ((Outcome.all (ps.map stickerLine)).map _).map _
      rw [ih]
      cases Outcome.all (ps.map stickerLine) <;> rfl

theorem channelLine_eq_ok_iff {p : Bytes × Bytes} {c : Bytes} : channelLine p = .ok c ↔ p = (str "channel", c) := by
  unfold channelLine
  split
  · rename_i hk
    exact ⟨fun h => (nomatch h), fun h => absurd (congrArg Prod.fst h) hk⟩
  · rename_i hk
    rw [Decidable.not_not] at hk
    exact ⟨fun h => Prod.ext hk (Outcome.ok.inj h), fun h => congrArg Outcome.ok (congrArg Prod.snd h)⟩

theorem tagTypeLine_eq_ok_iff {p : Bytes × Bytes} {t : Tag} :
    tagTypeLine p = .ok t ↔ p.1 = str "tagtype" ∧ Tag.tryFrom p.2 = .ok t := by
  unfold tagTypeLine
  split
  · rename_i hk
    exact ⟨fun h => (nomatch h), fun h => absurd h.1 hk⟩
  · rename_i hk
    rw [Decidable.not_not] at hk
    cases Tag.tryFrom p.2 <;> simp [hk]

theorem listLine_eq_ok_iff {p : Bytes × Bytes} {q : Tag × Bytes} :
    listLine p = .ok q ↔ Tag.tryFrom p.1 = .ok q.1 ∧ p.2 = q.2 := by
  unfold listLine
  cases Tag.tryFrom p.1 <;> simp [Prod.ext_iff]

theorem stickerLine_eq_ok_iff {p a : Bytes × Bytes} :
    stickerLine p = .ok a ↔ p.2 = a.1 ++ 61 :: a.2 ∧ (61 : UInt8) ∉ a.1 := by
  unfold stickerLine parseStickerValue
  rw [Outcome.ofOption_eq_ok_iff]
  exact splitOnce_eq_some_iff

theorem channelLine_ne_panic (p : Bytes × Bytes) : channelLine p ≠ .panic := by
  unfold channelLine
  split <;> exact fun h => nomatch h

theorem tagTypeLine_ne_panic (p : Bytes × Bytes) : tagTypeLine p ≠ .panic := by
  unfold tagTypeLine
  split
  · exact fun h => nomatch h
  · cases Tag.tryFrom p.2 <;> exact fun h => nomatch h

theorem SMap.insert_new (k v : Bytes) (m : SMap) (h : k ∉ m.map (·.1)) : SMap.insert k v m = m ++ [(k, v)] := by
  induction m with
  | nil => rfl
  | cons p ps ih =>
    simp only [List.map_cons, List.mem_cons, not_or] at h
    have : ¬ p.1 = k := fun e => h.1 e.symm
    simp [SMap.insert, this, ih h.2]

theorem SMap.foldl_insert_new (rows : List (Bytes × Bytes)) (m : SMap) (hd : ((m ++ rows).map (·.1)).Nodup) :
    rows.foldl (fun acc p => SMap.insert p.1 p.2 acc) m = m ++ rows := by
  induction rows generalizing m with
  | nil => simp
  | cons r rs ih =>
    have hnew : r.1 ∉ m.map (·.1) := by
      simp only [List.map_append, List.map_cons, List.nodup_append] at hd
      exact fun hm => hd.2.2 r.1 hm r.1 (List.mem_cons_self ..) rfl
    rw [List.foldl_cons, SMap.insert_new r.1 r.2 m hnew, ih _ (by simpa using hd)]
    simp

end Mpd.Typed
