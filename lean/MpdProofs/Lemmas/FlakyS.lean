import MpdProofs.Lemmas.Flaky
/-!
Any number of failed reads is invisible (blocking connection). How the blocking connection cuts the chunks depends on
its fixed, doubling buffer, so the statements compare with ONE `feed` of the bytes the pieces deliver (through
`recvLoopS_feed`, hence scripts of non-empty reads), not with `recvLoopS` on the script without the failures.
-/
namespace Mpd.Conn
open Mpd.Builder

/-- a blocking call that reports a read failure has used up its piece and leaves the builder state and buffer of
feeding everything that was delivered, pending -/
theorem recvLoopS_io_state (fuel : Nat) (σ : BState) (b : SBuf) (cs : List Bytes) (k j : Nat)
    (hne : NonEmptyChunks cs) (hinv : SInv b)
    (h : (recvLoopS fuel σ b cs (.ioerr k)).1 = .io j) :
    (recvLoopS fuel σ b cs (.ioerr k)).2.2.1 = [] ∧ j = k ∧
    feed σ (b.data ++ cs.flatten) =
      ((recvLoopS fuel σ b cs (.ioerr k)).2.2.2, (recvLoopS fuel σ b cs (.ioerr k)).2.1.data, .pending) ∧
    SInv (recvLoopS fuel σ b cs (.ioerr k)).2.1 := by
  obtain ⟨out, hF, hit, hend, _, hinv', _⟩ :=
    recvLoopS_feed hne hinv (rfl : recvLoopS fuel σ b cs (.ioerr k) = (_, _, _, _)) (.inr (by rw [h]; exact Item.noConfusion))
  rw [h] at hit
  cases out with
  | pending =>
    have hrem := hend rfl
    rw [hrem, List.flatten_nil, List.append_nil] at hF hit
    exact ⟨hrem, Item.io.inj hit, hF, hinv'⟩
  | _ => cases hit

theorem recvRetryS_nil {σ σ' : BState} {b b' : SBuf} {cs cs' : List Bytes} {t : Term} {it : Item}
    (h : recvS σ b cs t = (it, b', cs', σ')) : recvRetryS σ b cs t [] = (it, b', σ', cs', t, []) := by
  rw [recvRetryS, h]

theorem recvRetryS_cons_io {σ σ' : BState} {b b' : SBuf} {cs cs' : List Bytes} {t : Term} {j : Nat}
    (h : recvS σ b cs t = (.io j, b', cs', σ')) (p : ScriptPiece) (more : List ScriptPiece) :
    recvRetryS σ b cs t (p :: more) = recvRetryS σ' b' p.1 p.2 more := by
  rw [recvRetryS, h]

theorem recvRetryS_cons_other {σ σ' : BState} {b b' : SBuf} {cs cs' : List Bytes} {t : Term} {it : Item}
    (h : recvS σ b cs t = (it, b', cs', σ')) (hit : ∀ j, it ≠ .io j) (p : ScriptPiece)
    (more : List ScriptPiece) : recvRetryS σ b cs t (p :: more) = (it, b', σ', cs', t, p :: more) := by
  rw [recvRetryS, h]
  cases it with
  | io j => exact absurd rfl (hit j)
  | _ => rfl

/-- **one logical receive on the blocking connection, any number of failed reads, refined to `feed`** -/
theorem recvRetryS_feed {more more' : List ScriptPiece} {σ σ' : BState} {b b' : SBuf} {cs cs' : List Bytes}
    {t t' : Term} {it : Item} (hio : IoChain t more) (hne : NonEmptyChunks (flatScript cs more)) (hinv : SInv b)
    (h : recvRetryS σ b cs t more = (it, b', σ', cs', t', more')) :
    ∃ out, feed σ (b.data ++ (flatScript cs more).flatten) = (σ', b'.data ++ (flatScript cs' more').flatten, out) ∧
      it = callItem (lastTerm t more) σ' (b'.data ++ (flatScript cs' more').flatten) out ∧
      NonEmptyChunks (flatScript cs' more') ∧ SInv b' ∧ lastTerm t' more' = lastTerm t more ∧ IoChain t' more' := by
  induction more generalizing σ b cs t with
  | nil =>
    rw [flatScript_nil] at hne ⊢
    rcases hr : recvS σ b cs t with ⟨it₁, b₁, cs₁, σ₁⟩
    rw [recvRetryS_nil hr] at h
    cases h
    obtain ⟨out, hF, hit, _, hne', hinv', _⟩ := recvLoopS_feed hne hinv hr (.inl (Nat.lt_succ_self _))
    rw [flatScript_nil]
    exact ⟨out, hF, hit, hne', hinv', rfl, hio⟩
  | cons p more ih =>
    obtain ⟨⟨k, rfl⟩, hio'⟩ := hio
    rw [flatScript_cons] at hne
    obtain ⟨hne1, hne2⟩ := nonEmptyChunks_append.mp hne
    rcases hr : recvS σ b cs (.ioerr k) with ⟨it₁, b₁, cs₁, σ₁⟩
    obtain ⟨out, hF, hit, hend, hne', hinv', _⟩ := recvLoopS_feed hne1 hinv hr (.inl (Nat.lt_succ_self _))
    rw [flatScript_cons, List.flatten_append, ← List.append_assoc, lastTerm]
    by_cases ho : out = .pending
    · -- the piece is used up and its failure reported: the caller calls again
      subst ho
      rw [hend rfl, List.flatten_nil, List.append_nil] at hF hit
      rw [recvRetryS_cons_io (hit ▸ hr)] at h
      rw [feed_append_of_pending hF]
      exact ih hio' hne2 hinv' h
    · -- the call returned before the failure: later pieces are untouched
      rw [callItem_final ho] at hit
      rw [recvRetryS_cons_other hr (fun j hj => finalItem_ne_io out j (hit ▸ hj))] at h
      cases h
      refine ⟨out, ?_, ?_, ?_, hinv', rfl, ⟨k, rfl⟩, hio'⟩
      · rw [feed_append_of_final hF ho, flatScript_cons, List.flatten_append, List.append_assoc]
      · rw [hit, callItem_final ho]
      · rw [flatScript_cons]
        exact nonEmptyChunks_append.mpr ⟨hne', hne2⟩

/-- `recvRetryS_feed` with the call's result in projections and `recvAll` in place of `feed` -/
theorem recvRetryS_eq (more : List ScriptPiece) (σ : BState) (b : SBuf) (cs : List Bytes) (t : Term)
    (hio : IoChain t more) (hne : NonEmptyChunks (flatScript cs more)) (hinv : SInv b) :
    ((recvRetryS σ b cs t more).1,
      (recvRetryS σ b cs t more).2.1.data ++
        (flatScript (recvRetryS σ b cs t more).2.2.2.1 (recvRetryS σ b cs t more).2.2.2.2.2).flatten) =
      recvAll σ (b.data ++ (flatScript cs more).flatten) (lastTerm t more) ∧
    NonEmptyChunks (flatScript (recvRetryS σ b cs t more).2.2.2.1 (recvRetryS σ b cs t more).2.2.2.2.2) ∧
    SInv (recvRetryS σ b cs t more).2.1 ∧
    lastTerm (recvRetryS σ b cs t more).2.2.2.2.1 (recvRetryS σ b cs t more).2.2.2.2.2 = lastTerm t more ∧
    IoChain (recvRetryS σ b cs t more).2.2.2.2.1 (recvRetryS σ b cs t more).2.2.2.2.2 ∧
    (∀ r, (recvRetryS σ b cs t more).1 = .resp r → (recvRetryS σ b cs t more).2.2.1 = .initial) := by
  obtain ⟨out, hF, hit, h2, h3, h4, h5⟩ :=
    recvRetryS_feed hio hne hinv (rfl : recvRetryS σ b cs t more = (_, _, _, _, _, _))
  exact ⟨by rw [recvAll_eq hF, hit], h2, h3, h4, h5, fun r hr => callItem_resp_initial hF (hit ▸ hr)⟩

theorem sessionRetryS_succ (fuel extra : Nat) {σ σ' : BState} {b b' : SBuf} {cs cs' : List Bytes}
    {t t' : Term} {more more' : List ScriptPiece} {it : Item}
    (h : recvRetryS σ b cs t more = (it, b', σ', cs', t', more')) :
    sessionRetryS (fuel + 1) extra σ b cs t more =
      it :: if it.isResp then sessionRetryS fuel extra σ' b' cs' t' more' else
        match extra with
        | 0 => []
        | e + 1 => sessionRetryS fuel e σ' b' cs' t' more' := by
  rw [sessionRetryS, h]
  cases it <;> cases extra <;> rfl

end Mpd.Conn
