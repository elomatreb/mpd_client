import MpdProofs.Lemmas.ParserInv
import MpdProofs.Lemmas.Bytes
/-!
The wire format accepted by each production of `parser.rs`, exactly:
`p i = ok v r ↔ i = <wire form of v> ++ r ∧ <side conditions>`; from these, soundness and completeness of `parseComp`.
-/
namespace Mpd.Parser

def IsNum (ds : Bytes) : Prop := ds ≠ [] ∧ ds.all isDigit = true ∧ digitsVal ds ≤ U64MAX

theorem isNum_natToDec {n : Nat} (h : n ≤ U64MAX) : IsNum (natToDec n) :=
  ⟨(natToDec_spec n).1, (natToDec_spec n).2.1, (natToDec_spec n).2.2.symm ▸ h⟩

theorem number_ok_iff (i : Bytes) (n : Nat) (r : Bytes) :
    number i = .ok n r ↔
      ∃ ds, IsNum ds ∧ n = digitsVal ds ∧ i = ds ++ r ∧ ∃ b r', r = b :: r' ∧ isDigit b = false := by
  simp only [number, mapRes_ok_iff, takeWhile1_ok_iff, parseU64Digits]
  constructor
  · rintro ⟨ds, ⟨hne, hall, hi, hnext⟩, h2⟩
    split at h2
    · rename_i hle
      cases h2
      exact ⟨ds, ⟨hne, hall, hle⟩, rfl, hi, hnext⟩
    · cases h2
  · rintro ⟨ds, ⟨hne, hall, hle⟩, rfl, hi, hnext⟩
    exact ⟨ds, ⟨hne, hall, hi, hnext⟩, if_pos hle⟩

theorem fieldValue_ok_iff (i v r : Bytes) : fieldValue i = .ok v r ↔ LF ∉ v ∧ i = v ++ LF :: r := by
  simp only [fieldValue, terminated_ok_iff, takeUntilLF_eq_takeWhile, takeWhile_ok_iff, all_ne_iff_not_mem,
    char_ok_iff]
  constructor
  · rintro ⟨_, _, ⟨hv, rfl, _⟩, rfl⟩
    exact ⟨hv, rfl⟩
  · rintro ⟨hv, rfl⟩
    exact ⟨LF :: r, (), ⟨hv, rfl, LF, r, rfl, by decide⟩, rfl⟩

theorem utf8_eq_some (a b : Bytes) : utf8 a = some b ↔ validUtf8 a = true ∧ b = a := by
  unfold utf8
  split
  · rename_i h
    simp only [Option.some.injEq, h, true_and]
    exact eq_comm
  · rename_i h
    simp [h]

theorem validUtf8_of_ascii (l : Bytes) (h : ∀ b ∈ l, b < 0x80) : validUtf8 l = true := by
  induction l with
  | nil => rfl
  | cons b bs ih =>
    rw [validUtf8.eq_def]
    dsimp only
    rw [if_pos (h b (List.mem_cons_self ..))]
    exact ih fun x hx => h x (List.mem_cons_of_mem _ hx)

theorem keyChar_ascii (b : UInt8) (h : isKeyChar b = true) : b < 0x80 := by
  simp only [isKeyChar, isAlpha, isUpper, isLower, USCORE, DASH, Bool.or_eq_true, Bool.and_eq_true,
    decide_eq_true_eq, beq_iff_eq, UInt8.le_iff_toNat_le, ← UInt8.toNat_inj] at h
  rw [UInt8.lt_iff_toNat_lt]
  simp only [UInt8.toNat_ofNat] at h ⊢
  omega

/-- the `from_utf8` the parser applies to keys and command names never fails -/
theorem validUtf8_of_keyChars (k : Bytes) (h : k.all isKeyChar = true) : validUtf8 k = true :=
  validUtf8_of_ascii k fun b hb => keyChar_ascii b (List.all_eq_true.mp h b hb)

theorem validUtf8_of_cmdChars (k : Bytes) (h : k.all isCmdNameChar = true) : validUtf8 k = true :=
  validUtf8_of_keyChars k (List.all_eq_true.mpr fun b hb => by
    have := List.all_eq_true.mp h b hb
    unfold isCmdNameChar at this
    unfold isKeyChar
    rw [this]
    rfl)

theorem keyValueField_ok_iff (i : Bytes) (kv : Bytes × Bytes) (r : Bytes) :
    keyValueField i = .ok kv r ↔
      kv.1 ≠ [] ∧ kv.1.all isKeyChar = true ∧ LF ∉ kv.2 ∧ validUtf8 kv.2 = true ∧
      i = kv.1 ++ str ": " ++ kv.2 ++ LF :: r := by
  obtain ⟨k, v⟩ := kv
  simp only [keyValueField, andThen_ok_iff, preceded_ok_iff, pMap_ok_iff, mapRes_ok_iff, takeWhile1_ok_iff,
    tag_ok_iff, fieldValue_ok_iff, utf8_eq_some, Prod.mk.injEq, List.append_assoc]
  constructor
  · rintro ⟨_, _, ⟨_, ⟨hne, hall, rfl, _⟩, _, rfl⟩, _, _, rfl, _, ⟨_, ⟨hv, rfl⟩, hvu, rfl⟩, rfl, rfl⟩
    exact ⟨hne, hall, hv, hvu, rfl⟩
  · rintro ⟨hne, hall, hv, hvu, rfl⟩
    exact ⟨k, _, ⟨k, ⟨hne, hall, rfl, COLON, _, rfl, by decide⟩, validUtf8_of_keyChars k hall, rfl⟩,
      (), _, rfl, v, ⟨v, ⟨hv, rfl⟩, hvu, rfl⟩, rfl, rfl⟩

theorem binaryPrefix_ok_iff (i : Bytes) (n : Nat) (r : Bytes) :
    binaryPrefix i = .ok n r ↔ ∃ ds, IsNum ds ∧ n = digitsVal ds ∧ i = str "binary: " ++ ds ++ LF :: r := by
  simp only [binaryPrefix, preceded_ok_iff, tag_ok_iff, cut_ok_iff, terminated_ok_iff, number_ok_iff, char_ok_iff,
    List.append_assoc]
  constructor
  -- `hi : i = str "binary: " ++ _` is handed on: as an `rfl` pattern it would have `rintro` evaluate the literal
  · rintro ⟨_, _, hi, _, _, ⟨ds, hnum, rfl, rfl, _⟩, rfl⟩
    exact ⟨ds, hnum, rfl, hi⟩
  · rintro ⟨ds, hnum, rfl, hi⟩
    exact ⟨(), _, hi, _, (), ⟨ds, hnum, rfl, rfl, _, _, rfl, by decide⟩, rfl⟩

theorem binaryField_ok_iff (i bin r : Bytes) :
    binaryField i = .ok bin r ↔
      ∃ ds, IsNum ds ∧ bin.length = digitsVal ds ∧ i = str "binary: " ++ ds ++ [LF] ++ bin ++ LF :: r := by
  simp only [binaryField, andThen_ok_iff, binaryPrefix_ok_iff, cut_ok_iff, terminated_ok_iff, take_ok_iff,
    char_ok_iff, List.append_assoc, List.cons_append, List.nil_append]
  constructor
  -- `hi` is handed on as above
  · rintro ⟨_, _, ⟨ds, hnum, rfl, hi⟩, _, _, ⟨hlen, rfl⟩, rfl⟩
    exact ⟨ds, hnum, hlen, hi⟩
  · rintro ⟨ds, hnum, hlen, hi⟩
    exact ⟨_, _, ⟨ds, hnum, rfl, hi⟩, _, (), ⟨hlen, rfl⟩, rfl⟩

theorem errorCodeAndIndex_ok_iff (i : Bytes) (ci : Nat × Nat) (r : Bytes) :
    errorCodeAndIndex i = .ok ci r ↔
      ∃ c1 c2, IsNum c1 ∧ IsNum c2 ∧ ci = (digitsVal c1, digitsVal c2) ∧
        i = 91 :: (c1 ++ 64 :: (c2 ++ 93 :: r)) := by
  simp only [errorCodeAndIndex, preceded_ok_iff, andThen_ok_iff, pMap_ok_iff, number_ok_iff, char_ok_iff]
  constructor
  · rintro ⟨_, _, rfl, _, _, ⟨c1, hn1, rfl, rfl, _⟩, _, _, rfl, _, _, ⟨c2, hn2, rfl, rfl, _⟩, _, rfl, rfl⟩
    exact ⟨c1, c2, hn1, hn2, rfl, rfl⟩
  · rintro ⟨c1, c2, hn1, hn2, rfl, rfl⟩
    exact ⟨(), _, rfl, _, _, ⟨c1, hn1, rfl, rfl, _, _, rfl, by decide⟩,
      (), _, rfl, _, _, ⟨c2, hn2, rfl, rfl, _, _, rfl, by decide⟩, (), rfl, rfl⟩

theorem errorCurrentCommand_ok_iff (i : Bytes) (c : Option Bytes) (r : Bytes) :
    errorCurrentCommand i = .ok c r ↔
      ∃ cmd, cmd.all isCmdNameChar = true ∧ c = (if cmd = [] then none else some cmd) ∧
        i = 123 :: (cmd ++ 125 :: r) := by
  simp only [errorCurrentCommand, preceded_ok_iff, terminated_ok_iff, opt_ok_iff, mapRes_ok_iff,
    takeWhile1_ok_iff, char_ok_iff, utf8_eq_some]
  constructor
  · rintro ⟨_, _, rfl, _, _, ⟨cmd, ⟨_, ⟨hne, hall, rfl, _⟩, _, rfl⟩, rfl⟩ | ⟨_, rfl, rfl⟩, rfl⟩
    · exact ⟨cmd, hall, by rw [if_neg hne], rfl⟩
    · exact ⟨[], rfl, rfl, rfl⟩
  · rintro ⟨cmd, hall, rfl, rfl⟩
    refine ⟨(), _, rfl, _, (), ?_, rfl⟩
    by_cases hc : cmd = []
    · subst hc
      exact .inr ⟨rfl, rfl, rfl⟩
    · exact .inl ⟨cmd, ⟨cmd, ⟨hc, hall, rfl, _, _, rfl, by decide⟩, validUtf8_of_cmdChars cmd hall, rfl⟩, by rw [if_neg hc]⟩

def ackWire (c1 c2 cmd msg : Bytes) : Bytes :=
  str "ACK [" ++ c1 ++ [64] ++ c2 ++ str "] {" ++ cmd ++ str "} " ++ msg ++ [LF]

/-- the ACK line cut where `error` cuts it -/
theorem ackWire_append (c1 c2 cmd msg r : Bytes) :
    ackWire c1 c2 cmd msg ++ r =
      str "ACK " ++ (91 :: (c1 ++ 64 :: (c2 ++ 93 :: SPACE :: 123 :: (cmd ++ 125 :: SPACE :: (msg ++ LF :: r))))) := by
  rw [ackWire]
  repeat rw [str_ofList]
  simp only [List.append_assoc]
  -- what is left is between literal bytes
  rfl

theorem error_ok_iff (i : Bytes) (e : Err) (r : Bytes) :
    error i = .ok e r ↔
      ∃ c1 c2 cmd msg, IsNum c1 ∧ IsNum c2 ∧ cmd.all isCmdNameChar = true ∧ LF ∉ msg ∧ validUtf8 msg = true ∧
        e = { code := digitsVal c1, index := digitsVal c2,
              command := if cmd = [] then none else some cmd, message := msg } ∧
        i = ackWire c1 c2 cmd msg ++ r := by
  simp only [error, preceded_ok_iff, andThen_ok_iff, terminated_ok_iff, pMap_ok_iff, mapRes_ok_iff, tag_ok_iff,
    char_ok_iff, errorCodeAndIndex_ok_iff, errorCurrentCommand_ok_iff, takeWhile_ok_iff, utf8_eq_some,
    all_ne_iff_not_mem, ackWire_append]
  constructor
  -- `hi : i = str "ACK " ++ _` is handed on, as in `binaryPrefix_ok_iff`
  · rintro ⟨_, _, hi, _, _, ⟨_, _, ⟨c1, c2, hn1, hn2, rfl, rfl⟩, rfl⟩, _, _, ⟨_, _, ⟨cmd, hall, rfl, rfl⟩, rfl⟩,
      _, _, ⟨msg, ⟨hml, rfl, _⟩, hmu, rfl⟩, _, rfl, rfl⟩
    exact ⟨c1, c2, cmd, _, hn1, hn2, hall, hml, hmu, rfl, hi⟩
  · rintro ⟨c1, c2, cmd, msg, hn1, hn2, hall, hml, hmu, rfl, hi⟩
    exact ⟨(), _, hi, _, _, ⟨_, (), ⟨c1, c2, hn1, hn2, rfl, rfl⟩, rfl⟩,
      _, _, ⟨_, (), ⟨cmd, hall, rfl, rfl⟩, rfl⟩, _, _, ⟨msg, ⟨hml, rfl, _, _, rfl, by decide⟩, hmu, rfl⟩, (), rfl, rfl⟩

/-- the bytes that encode a component on the wire -/
inductive Wire : Comp → Bytes → Prop where
  | endOfResponse : Wire .endOfResponse (str "OK\n")
  | endOfFrame : Wire .endOfFrame (str "list_OK\n")
  | field (k v : Bytes) : k ≠ [] → k.all isKeyChar = true → LF ∉ v → validUtf8 v = true →
      Wire (.field k v) (k ++ str ": " ++ v ++ [LF])
  | binary (ds bin : Bytes) : IsNum ds → bin.length = digitsVal ds →
      Wire (.binary (digitsVal ds)) (str "binary: " ++ ds ++ [LF] ++ bin ++ [LF])
  | error (c1 c2 cmd msg : Bytes) : IsNum c1 → IsNum c2 → cmd.all isCmdNameChar = true →
      LF ∉ msg → validUtf8 msg = true →
      Wire (.error { code := digitsVal c1, index := digitsVal c2,
                     command := if cmd = [] then none else some cmd, message := msg })
           (ackWire c1 c2 cmd msg)

/-- **soundness**: whatever `parseComp` returns is literally on the wire (nothing is fabricated) -/
theorem parseComp_sound (i : Bytes) (c : Comp) (rest : Bytes) (h : parseComp i = .ok c rest) :
    ∃ msg, Wire c msg ∧ i = msg ++ rest := by
  simp only [parseComp, alt_ok_iff, pMap_ok_iff, tag_ok_iff, error_ok_iff, binaryField_ok_iff,
    keyValueField_ok_iff] at h
  -- the equations for `i` stay hypotheses: as `rfl` patterns they would have `rcases` evaluate their literals
  rcases h with ⟨_, hi, rfl⟩ | ⟨_, ⟨_, hi, rfl⟩ | ⟨_, ⟨_, ⟨c1, c2, cmd, msg, hn1, hn2, hall, hml, hmu, rfl, hi⟩, rfl⟩ |
    ⟨_, ⟨bin, ⟨ds, hnum, hlen, hi⟩, rfl⟩ | ⟨_, kv, ⟨hne, hall, hv, hvu, hi⟩, rfl⟩⟩⟩⟩
  · exact ⟨_, .endOfResponse, hi⟩
  · exact ⟨_, .endOfFrame, hi⟩
  · exact ⟨_, .error c1 c2 cmd msg hn1 hn2 hall hml hmu, hi⟩
  · rw [hlen]
    exact ⟨_, .binary ds bin hnum hlen, hi.trans (List.append_assoc _ [LF] rest).symm⟩
  · exact ⟨_, .field kv.1 kv.2 hne hall hv hvu, hi.trans (List.append_assoc _ [LF] rest).symm⟩

theorem tag_cases (t i : Bytes) :
    (∃ r, i = t ++ r ∧ tag t i = .ok () r) ∨ (∃ s, t = i ++ s ∧ tag t i = .incomplete) ∨ tag t i = .error := by
  induction t generalizing i with
  | nil => exact .inl ⟨i, rfl, rfl⟩
  | cons a ts ih =>
    cases i with
    | nil => exact .inr (.inl ⟨_, rfl, rfl⟩)
    | cons b bs =>
      rw [tag]
      by_cases hab : a = b
      · subst hab
        rw [if_pos rfl]
        rcases ih bs with ⟨r, h1, h2⟩ | ⟨s, h1, h2⟩ | h
        · exact .inl ⟨r, by rw [h1]; rfl, h2⟩
        · exact .inr (.inl ⟨s, by rw [h1]; rfl, h2⟩)
        · exact .inr (.inr h)
      · rw [if_neg hab]
        exact .inr (.inr rfl)

/-- Every line of the grammar is a run of key bytes followed by a byte that is none (`OK⏎`, `list_OK⏎`,
`ACK␣`, `binary:`, `key:`), and so is every tag `parseComp` tries. A tag whose run or whose next byte
differs from the line's rejects it with a recoverable error — so `alt` moves on. -/
theorem tag_error_of_keyline (t1 : Bytes) (c' : UInt8) (t2 k : Bytes) (d : UInt8) (rest : Bytes)
    (ht1 : t1.all isKeyChar = true) (hc' : isKeyChar c' = false) (hk : k.all isKeyChar = true)
    (hd : isKeyChar d = false) (hdiff : c' ≠ d ∨ t1 ≠ k) :
    tag (t1 ++ c' :: t2) (k ++ d :: rest) = .error := by
  -- both sides of such an equation are the split of the line at its first non-key byte
  have key : ∀ x y : Bytes, t1 ++ c' :: x = k ++ d :: y → False := by
    intro x y hxy
    obtain ⟨h1, h2⟩ := span_eq_iff.mpr ⟨ht1, rfl, hc'⟩
    obtain ⟨h3, h4⟩ := span_eq_iff.mpr ⟨hk, hxy, hd⟩
    rcases hdiff with h | h
    · exact h (List.cons.inj (h2.symm.trans h4)).1
    · exact h (h1.symm.trans h3)
  rcases tag_cases (t1 ++ c' :: t2) (k ++ d :: rest) with ⟨r, h, _⟩ | ⟨s, h, _⟩ | h
  · exact absurd (by rw [h, List.append_assoc]; rfl) (key (t2 ++ r) rest)
  · exact absurd (by rw [h, List.append_assoc]; rfl) (key t2 (rest ++ s))
  · exact h

/-- The literal facts about the keywords, evaluated once: each of the four tags of `parseComp` is a run of key bytes
followed by bytes the first of which is none, the delimiters are not key bytes, `OK` is not `list_OK`, and the bytes of
the field separator. -/
theorem keyword_runs :
    (str "OK\n" = str "OK" ++ [LF] ∧ (str "OK").all isKeyChar = true) ∧
    (str "list_OK\n" = str "list_OK" ++ [LF] ∧ (str "list_OK").all isKeyChar = true) ∧
    (str "ACK " = str "ACK" ++ [SPACE] ∧ (str "ACK").all isKeyChar = true) ∧
    (str "binary: " = str "binary" ++ [COLON, SPACE] ∧ (str "binary").all isKeyChar = true) ∧
    isKeyChar LF = false ∧ isKeyChar SPACE = false ∧ isKeyChar COLON = false ∧
    str "OK" ≠ str "list_OK" ∧ str ": " = [COLON, SPACE] := by
  repeat rw [str_ofList]
  decide +kernel

/-- each of the first four alternatives of `parseComp` begins with a tag, and rejects such a line unless it is its own -/
theorem alts_reject {i k : Bytes} {d : UInt8} {rest : Bytes} (hi : i = k ++ d :: rest)
    (hk : k.all isKeyChar = true) (hd : isKeyChar d = false) :
    (LF ≠ d ∨ str "OK" ≠ k → pMap (tag (str "OK\n")) (fun _ => Comp.endOfResponse) i = .error) ∧
    (LF ≠ d ∨ str "list_OK" ≠ k → pMap (tag (str "list_OK\n")) (fun _ => Comp.endOfFrame) i = .error) ∧
    (SPACE ≠ d ∨ str "ACK" ≠ k → pMap error Comp.error i = .error) ∧
    (COLON ≠ d ∨ str "binary" ≠ k → pMap binaryField (fun bin => Comp.binary bin.length) i = .error) := by
  obtain ⟨⟨h1, k1⟩, ⟨h2, k2⟩, ⟨h3, k3⟩, ⟨h4, k4⟩, dLF, dSP, dCO, -, -⟩ := keyword_runs
  subst hi
  unfold error binaryField binaryPrefix preceded
  rw [h1, h2, h3, h4]
  exact ⟨fun h => pMap_error _ _ _ (tag_error_of_keyline _ LF [] k d rest k1 dLF hk hd h),
    fun h => pMap_error _ _ _ (tag_error_of_keyline _ LF [] k d rest k2 dLF hk hd h),
    fun h => pMap_error _ _ _ (andThen_error _ _ _ (tag_error_of_keyline _ SPACE [] k d rest k3 dSP hk hd h)),
    fun h => pMap_error _ _ _ (andThen_error _ _ _ (andThen_error _ _ _
      (tag_error_of_keyline _ COLON [SPACE] k d rest k4 dCO hk hd h)))⟩

/-- **completeness**: every line of the grammar parses to itself, whatever follows it
(the key `binary` is reserved: `binary: …` is always a binary header) -/
theorem parseComp_complete (c : Comp) (msg tl : Bytes) (hw : Wire c msg)
    (hres : ∀ k v, c = .field k v → k ≠ str "binary") :
    parseComp (msg ++ tl) = .ok c tl := by
  obtain ⟨-, ⟨h2, k2⟩, ⟨h3, k3⟩, ⟨h4, k4⟩, dLF, dSP, dCO, hne, hsep⟩ := keyword_runs
  unfold parseComp
  cases hw with
  | endOfResponse =>
    exact alt_of_ok _ _ _ _ _ ((pMap_ok_iff _ _ _ _ _).mpr ⟨(), (tag_ok_iff ..).mpr rfl, rfl⟩)
  | endOfFrame =>
    obtain ⟨e1, -, -, -⟩ := alts_reject (show str "list_OK\n" ++ tl = str "list_OK" ++ LF :: tl by
      rw [h2, List.append_assoc]; rfl) k2 dLF
    rw [alt_of_error _ _ _ (e1 (.inr hne))]
    exact alt_of_ok _ _ _ _ _ ((pMap_ok_iff _ _ _ _ _).mpr ⟨(), (tag_ok_iff ..).mpr rfl, rfl⟩)
  | error c1 c2 cmd m hn1 hn2 hall hml hmu =>
    obtain ⟨e1, e2, -, -⟩ := alts_reject (show ackWire c1 c2 cmd m ++ tl = str "ACK" ++ SPACE :: _ by
      rw [ackWire_append, h3, List.append_assoc]; rfl) k3 dSP
    rw [alt_of_error _ _ _ (e1 (.inl (by decide))), alt_of_error _ _ _ (e2 (.inl (by decide)))]
    exact alt_of_ok _ _ _ _ _ ((pMap_ok_iff _ _ _ _ _).mpr
      ⟨_, (error_ok_iff _ _ _).mpr ⟨c1, c2, cmd, m, hn1, hn2, hall, hml, hmu, rfl, rfl⟩, rfl⟩)
  | binary ds bin hnum hlen =>
    obtain ⟨e1, e2, e3, -⟩ := alts_reject
      (show str "binary: " ++ ds ++ [LF] ++ bin ++ [LF] ++ tl = str "binary" ++ COLON :: _ by
        rw [h4]; simp only [List.append_assoc, List.cons_append, List.nil_append]; rfl) k4 dCO
    rw [alt_of_error _ _ _ (e1 (.inl (by decide))), alt_of_error _ _ _ (e2 (.inl (by decide))),
      alt_of_error _ _ _ (e3 (.inl (by decide)))]
    exact alt_of_ok _ _ _ _ _ ((pMap_ok_iff _ _ _ _ _).mpr
      ⟨bin, (binaryField_ok_iff _ _ _).mpr ⟨ds, hnum, hlen, by simp [List.append_assoc]⟩, by rw [hlen]⟩)
  | field k v hne hall hv hvu =>
    obtain ⟨e1, e2, e3, e4⟩ := alts_reject (show k ++ str ": " ++ v ++ [LF] ++ tl = k ++ COLON :: _ by
      simp only [hsep, List.append_assoc, List.cons_append, List.nil_append]; rfl) hall dCO
    rw [alt_of_error _ _ _ (e1 (.inl (by decide))), alt_of_error _ _ _ (e2 (.inl (by decide))),
      alt_of_error _ _ _ (e3 (.inl (by decide))), alt_of_error _ _ _ (e4 (.inr (hres k v rfl).symm))]
    exact (pMap_ok_iff _ _ _ _ _).mpr
      ⟨(k, v), (keyValueField_ok_iff _ _ _).mpr ⟨hne, hall, hv, hvu, by simp only [List.append_assoc, List.cons_append, List.nil_append]⟩, rfl⟩

end Mpd.Parser
