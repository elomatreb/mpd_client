import MpdProofs.Lemmas.LoopStep
/-!
Invariants of the run-loop model: every request handed to the loop is at every moment in exactly one place (queued,
in flight, or answered); at most one closing event; where a step leads.
-/
namespace Mpd.Loop

-- the ids answered in a log, the id in flight at a program point, both with the queued ids; the closing events of a log
def resolvedIds (obs : List Obs) : List Nat :=
  obs.filterMap fun o => match o with | .resolved id _ => some id | _ => none

def inFlight : Pc → List Nat
  | .cancelWait r _ => [r.id]
  | .waiting r _ => [r.id]
  | _ => []

def accounted (s : St) : List Nat := resolvedIds s.obs ++ inFlight s.pc ++ s.queue.map (·.id)

def closings (obs : List Obs) : Nat :=
  (obs.filter fun o => match o with | .closing _ => true | _ => false).length

@[simp] theorem resolvedIds_append (a b : List Obs) : resolvedIds (a ++ b) = resolvedIds a ++ resolvedIds b := by
  simp [resolvedIds, List.filterMap_append]

/-- for `simp` in place of the definition: unfolded, `simp` walks into the `match` under the binder, which is slow -/
theorem resolvedIds_cons (o : Obs) (l : List Obs) :
    resolvedIds (o :: l) = (match o with | .resolved id _ => [id] | _ => []) ++ resolvedIds l := by
  cases o <;> rfl
theorem resolvedIds_nil : resolvedIds [] = [] := rfl
theorem closings_append (a b : List Obs) : closings (a ++ b) = closings a + closings b := by
  simp [closings, List.filter_append]

def Appends (s s' : St) (extra : List Obs) : Prop := s'.obs = s.obs ++ extra

theorem write_obs (s : St) (b : Bytes) (w : WKind) :
    ((write s b w).2 = none ∧ (write s b w).1 = emit s (.wrote b w)) ∨ (∃ k, (write s b w).2 = some k ∧ (write s b w).1 = s) := by
  rcases write_cases s b w with ⟨_, h⟩ | ⟨k, _, h⟩ <;> rw [h]
  · exact .inl ⟨rfl, rfl⟩
  · exact .inr ⟨k, rfl, rfl⟩

theorem emitEvents_obs (s : St) (f : AFrame) :
    (emitEvents s f).obs = s.obs ++ (changedValues f).map Obs.event ∧ (emitEvents s f).queue = s.queue := by
  rw [emitEvents_eq]
  exact ⟨rfl, rfl⟩

theorem resolvedIds_events (l : List Bytes) : resolvedIds (l.map Obs.event) = [] := by
  simp [resolvedIds, List.filterMap_map, Function.comp_def]
theorem closings_events (l : List Bytes) : closings (l.map Obs.event) = 0 := by
  simp [closings, List.filter_map, Function.comp_def]

/-- the same ids as often; by counts, so that a step is `List.count_append` and arithmetic -/
def SameIds (a b : List Nat) : Prop := ∀ id, a.count id = b.count id

/-- the requests that are not in flight -/
def base (s : St) : List Nat := resolvedIds s.obs ++ s.queue.map (·.id)

theorem sameIds_refl (a : List Nat) : SameIds a a := fun _ => rfl
theorem sameIds_trans {a b c : List Nat} (h1 : SameIds a b) (h2 : SameIds b c) : SameIds a c :=
  fun id => (h1 id).trans (h2 id)

theorem exitLoop_base (s : St) : SameIds (accounted (exitLoop s)) (base s) := by
  obtain ⟨h1, h2, h3⟩ := exitLoop_spec s
  intro id
  rw [accounted, h1, h2, h3]
  simp [base, inFlight, resolvedIds, List.filterMap_append, List.count_append, List.filterMap_map, Function.comp_def]

theorem base_emit_other (s : St) (o : Obs) (ho : ∀ id r, o ≠ .resolved id r) : base (emit s o) = base s := by
  cases o with
  | resolved id r => exact absurd rfl (ho id r)
  | _ => rw [base, emit_obs, resolvedIds_append]; exact congrArg (· ++ _) (List.append_nil _)

theorem base_emit_resolved (s : St) (id : Nat) (r : Reply) :
    SameIds (base (emit s (.resolved id r))) (resolvedIds s.obs ++ [id] ++ s.queue.map (·.id)) := by
  intro x; simp [base, emit, resolvedIds_cons, resolvedIds_nil, List.count_append]

theorem exitLoop_emit_resolved (s : St) (id : Nat) (r : Reply) :
    SameIds (accounted (exitLoop (emit s (.resolved id r)))) (resolvedIds s.obs ++ [id] ++ s.queue.map (·.id)) :=
  sameIds_trans (exitLoop_base _) (base_emit_resolved s id r)

theorem exitLoop_emit_other (s : St) (o : Obs) (ho : ∀ id r, o ≠ .resolved id r) :
    SameIds (accounted (exitLoop (emit s o))) (base s) :=
  base_emit_other s o ho ▸ exitLoop_base (emit s o)

theorem base_emitEvents (s : St) (f : AFrame) : SameIds (base (emitEvents s f)) (base s) := by
  obtain ⟨h1, h2⟩ := emitEvents_obs s f
  intro x
  simp [base, h1, h2, resolvedIds_events]

theorem base_pollRecv (s : St) (σ : Builder.BState) : base (pollRecv s σ).1 = base s := by
  obtain ⟨_, _, _, h⟩ := (pollRecv_poll s σ).frame
  rw [h]
  rfl

theorem inFlight_setRecv (pc : Pc) (σ' : Builder.BState) : inFlight (pc.setRecv σ') = inFlight pc := by
  cases pc <;> rfl

/-- a write puts `ids` in flight (at `pc`), or answers them when it fails -/
theorem accounted_writeOr {b : Bytes} {w : WKind} {pc : Builder.BState → Pc} {o : Nat → Obs} {x x' : St}
    {ids : List Nat} (h : WriteOr b w pc o x x') (hpc : inFlight (pc x.bstash) = ids)
    (ho : ∀ k, resolvedIds [o k] = ids) : SameIds (accounted x') (base x ++ ids) := by
  intro id
  cases h with
  | ok _ => simp [accounted, base, emit, resolvedIds_cons, resolvedIds_nil, hpc, List.count_append]; omega
  | fail k _ =>
    rw [exitLoop_base (emit x (o k)) id]
    simp only [base, emit, resolvedIds_append, List.count_append, ho k]; omega

theorem accounted_move {d : Nat} {x x' : St} (h : Move d x x') : SameIds (accounted x') (base x) := by
  intro id
  cases h with
  | serve r q hq hs =>
    rw [accounted_writeOr hs (ids := [r.id]) rfl (fun _ => rfl) id]
    simp [base, hq, List.count_append, List.count_cons]
  | leave => exact exitLoop_base x id
  | reidle _ _ _ hi => rw [accounted_writeOr hi (ids := []) rfl (fun _ => rfl) id]; simp
  | wait => simp [accounted, base, inFlight]

theorem accounted_cancel {x x' : St} (h : Cancel x x') : SameIds (accounted x') (base x) := by
  intro id
  cases h with
  | leave => exact exitLoop_base x id
  | noidle r q hq hn =>
    rw [accounted_writeOr hn (ids := [r.id]) rfl (fun _ => rfl) id]
    simp [base, hq, List.count_append, List.count_cons]

theorem accounted_after {x s' : St} {rp : RecvPoll} (h : After x rp s') : SameIds (accounted s') (accounted x) := by
  intro id
  cases h with
  | pending σ' => simp [accounted, inFlight_setRecv]
  | pendingCommand σ σ' hpc _ hx =>
    rw [accounted_cancel hx id]
    simp [accounted, base, hpc, inFlight, dropFuture]
  | pwAccepted σ r hpc _ => simp [accounted, emit, resolvedIds_cons, resolvedIds_nil, hpc, inFlight]
  | pwRejected σ _ hpc _ | pwBroken σ _ hpc _ => simp [accounted, failConnect, emit, resolvedIds_cons, resolvedIds_nil, hpc, inFlight]
  | idleReply σ r f hpc _ hi =>
    rw [accounted_writeOr hi (ids := []) rfl (fun _ => rfl) id, List.append_nil, base_emitEvents _ f id]
    simp [accounted, base, hpc, inFlight]
  -- nothing in flight at `idling`: leaving the loop answers what is queued
  | idleError σ _ _ hpc _ | idleBroken σ _ hpc _ _ =>
    rw [exitLoop_emit_other _ _ (by intro _ _ h; cases h) id]
    simp [accounted, base, hpc, inFlight]
  | idleEmpty σ _ hpc _ | idleClean σ hpc =>
    rw [exitLoop_base _ id]
    simp [accounted, base, hpc, inFlight]
  | cancelled rq σ r f hpc _ hs =>
    rw [accounted_writeOr hs (ids := [rq.id]) rfl (fun _ => rfl) id, List.count_append, base_emitEvents _ f id]
    simp [accounted, base, hpc, inFlight, List.count_append, List.count_cons]
    omega
  | cancelError rq σ r e hpc _ =>
    rw [exitLoop_emit_resolved (emit _ (.closing none)) rq.id .closed id]
    simp [accounted, emit, resolvedIds_cons, resolvedIds_nil, hpc, inFlight]
  -- the request in flight is answered, then the loop is left
  | cancelEmpty rq σ _ hpc _ | cancelBroken rq σ _ hpc _ | replyClean rq σ hpc =>
    rw [exitLoop_emit_resolved _ rq.id _ id]
    simp [accounted, hpc, inFlight]
  | reply rq σ _ hpc hm | replyBroken rq σ _ hpc _ _ hm =>
    rw [accounted_move hm id, base_emit_resolved _ rq.id _ id]
    simp [accounted, hpc, inFlight]

/-- **request accounting**: the ids in (answered ++ in flight ++ queued) are preserved as a multiset -/
theorem step_accounted (s s' : St) (rf : Bool) (h : step s rf = some s') :
    SameIds (accounted s') (accounted s) := by
  by_cases hc : s.pc = .connecting
  · intro id
    cases connect_sound hc h <;> simp [accounted, failConnect, emit, resolvedIds_cons, resolvedIds_nil, inFlight, hc]
  · cases step_sound hc h with
    | spawned hpc hi =>
      intro id
      rw [accounted_writeOr hi (ids := []) rfl (fun _ => rfl) id]
      simp [accounted, base, hpc, inFlight]
    | timer d hpc _ hm =>
      intro id
      rw [accounted_move hm id]
      simp [accounted, base, hpc, inFlight]
    | command σ hpc _ hx =>
      intro id
      rw [accounted_cancel hx id]
      simp [accounted, base, hpc, inFlight, dropFuture]
    -- the state the poll left has the log, the program point and the queue of `s`
    | polled σ buf avail kept rp _ _ _ ha => exact accounted_after (x := s.polled buf avail kept) ha

/-- a transition either emits no closing event, or exactly one and ends the loop -/
def CloseOK (t t' : St) : Prop :=
  closings t'.obs = closings t.obs ∨ (closings t'.obs = closings t.obs + 1 ∧ t'.pc = .exited)

theorem closings_exitLoop (s : St) : closings (exitLoop s).obs = closings s.obs := by
  rw [(exitLoop_spec s).2.2]
  simp [closings]

/-- for a concrete `o` the last summand evaluates: to 1 for `.closing _`, to 0 otherwise -/
theorem closings_emit (s : St) (o : Obs) : closings (emit s o).obs = closings s.obs + closings [o] :=
  closings_append s.obs [o]

/-- leaving the loop logs no closing event of its own -/
theorem closeOK_exit_of {s y : St}
    (h : closings y.obs = closings s.obs ∨ closings y.obs = closings s.obs + 1) : CloseOK s (exitLoop y) := by
  unfold CloseOK
  rw [closings_exitLoop, (exitLoop_spec y).1]
  exact h.imp id fun h => ⟨h, rfl⟩

theorem closeOK_trans_eq {a b c : St} (h1 : closings b.obs = closings a.obs) (h2 : CloseOK b c) : CloseOK a c := by
  unfold CloseOK at *; rw [← h1]; exact h2

theorem closeOK_writeOr {b : Bytes} {w : WKind} {pc : Builder.BState → Pc} {o : Nat → Obs} {x x' : St}
    (h : WriteOr b w pc o x x') : CloseOK x x' := by
  cases h with
  | ok _ => exact .inl (closings_emit x _)
  | fail k _ =>
    refine closeOK_exit_of ?_
    cases o k with
    | closing e => exact .inr (closings_emit x _)
    | _ => exact .inl (closings_emit x _)

theorem closeOK_move {d : Nat} {x x' : St} (h : Move d x x') : CloseOK x x' := by
  cases h with
  | serve r q _ hs => exact closeOK_trans_eq (b := { x with queue := q }) rfl (closeOK_writeOr hs)
  | leave => exact closeOK_exit_of (.inl rfl)
  | reidle _ _ _ hi => exact closeOK_writeOr hi
  | wait => exact .inl rfl

theorem closeOK_cancel {x x' : St} (h : Cancel x x') : CloseOK x x' := by
  cases h with
  | leave => exact closeOK_exit_of (.inl rfl)
  | noidle r q _ hn => exact closeOK_trans_eq (b := { x with queue := q }) rfl (closeOK_writeOr hn)

theorem closeOK_after {x s' : St} {rp : RecvPoll} (h : After x rp s') : CloseOK x s' := by
  cases h with
  | pending σ' => exact .inl rfl
  | pendingCommand σ σ' _ _ hx => exact closeOK_trans_eq (b := dropFuture x σ') rfl (closeOK_cancel hx)
  | pwAccepted σ r => exact .inl (closings_emit _ _)
  | pwRejected σ _ | pwBroken σ _ => exact .inl ((closings_emit _ _).trans (closings_emit _ _))
  | idleReply _ _ f _ _ hw | cancelled _ _ _ f _ _ hw =>
    refine closeOK_trans_eq ?_ (closeOK_writeOr hw)
    rw [(emitEvents_obs x f).1, closings_append, closings_events]
    rfl
  | idleError σ _ _ | idleBroken σ _ => exact closeOK_exit_of (.inr (closings_emit x _))
  | cancelError _ σ _ _ => exact closeOK_exit_of (.inr ((closings_emit _ _).trans (closings_emit x _)))
  | idleEmpty σ _ | idleClean σ => exact closeOK_exit_of (.inl rfl)
  | cancelEmpty rq σ _ | cancelBroken rq σ _ | replyClean rq σ => exact closeOK_exit_of (.inl (closings_emit x _))
  | reply rq σ _ _ hm | replyBroken rq σ _ _ _ _ hm => exact closeOK_trans_eq (closings_emit x _) (closeOK_move hm)

theorem step_closeOK (s s' : St) (rf : Bool) (h : step s rf = some s') : CloseOK s s' := by
  by_cases hc : s.pc = .connecting
  · cases connect_sound hc h with
    | failed o | pwFailed v pw k => exact .inl ((closings_emit _ _).trans (closings_emit _ _))
    | more => exact .inl rfl
    | greeted v _ | pwSent v pw _ _ => exact .inl (closings_emit _ _)
  · cases step_sound hc h with
    | spawned _ hi => exact closeOK_writeOr hi
    | timer d _ _ hm => exact closeOK_move hm
    | command σ _ _ hx => exact closeOK_trans_eq (b := dropFuture s σ) rfl (closeOK_cancel hx)
    -- the poll logs nothing
    | polled σ buf avail kept rp _ _ _ ha => exact closeOK_after (x := s.polled buf avail kept) ha

/-- the invariant: no closing event while the loop runs, at most one ever -/
def ClosingInv (s : St) : Prop := closings s.obs ≤ 1 ∧ (s.pc ≠ .exited → closings s.obs = 0)

theorem step_closingInv (s s' : St) (rf : Bool) (h : step s rf = some s') (hi : ClosingInv s) : ClosingInv s' := by
  have hne : s.pc ≠ .exited := by intro he; rw [step_exited s rf he] at h; simp at h
  have h0 := hi.2 hne
  rcases step_closeOK s s' rf h with hc | ⟨hc, hp⟩
  · exact ⟨by rw [hc]; omega, fun _ => by rw [hc]; exact h0⟩
  · exact ⟨by rw [hc]; omega, fun hn => absurd hp hn⟩

def Terminal (s : St) : Prop := s.pc = .exited ∨ s.pc = .failed

theorem terminal_exitLoop (s : St) : Terminal (exitLoop s) := Or.inl (exitLoop_spec s).1

/-- the program points after `do_connect` has succeeded -/
def Live : Pc → Prop
  | .connecting => False
  | .pwWait _ => False
  | .failed => False
  | _ => True

/-- connected, and if the loop has returned the queue is empty -/
def Post (s : St) : Prop := Live s.pc ∧ (s.pc = .exited → s.queue = [])

theorem post_exitLoop (s : St) : Post (exitLoop s) := by
  obtain ⟨h1, h2, _⟩ := exitLoop_spec s
  exact ⟨by rw [h1]; trivial, fun _ => h2⟩

theorem live_setRecv (pc : Pc) (σ' : Builder.BState) : Live (pc.setRecv σ') ↔ Live pc := by
  cases pc <;> exact Iff.rfl

theorem post_of_pc {s : St} (hl : Live s.pc) (he : s.pc ≠ .exited) : Post s := ⟨hl, fun h => absurd h he⟩

theorem post_writeOr {b : Bytes} {w : WKind} {pc : Builder.BState → Pc} {o : Nat → Obs} {x x' : St}
    (h : WriteOr b w pc o x x') (hl : Live (pc x.bstash)) (he : pc x.bstash ≠ .exited) : Post x' := by
  cases h with
  | ok _ => exact post_of_pc hl he
  | fail k _ => exact post_exitLoop _

theorem post_move {d : Nat} {x x' : St} (h : Move d x x') : Post x' := by
  cases h with
  | serve r q _ hs => exact post_writeOr hs trivial (by simp)
  | leave => exact post_exitLoop x
  | reidle _ _ _ hi => exact post_writeOr hi trivial (by simp)
  | wait => exact post_of_pc trivial (by simp)

theorem post_cancel {x x' : St} (h : Cancel x x') : Post x' := by
  cases h with
  | leave => exact post_exitLoop x
  | noidle r q _ hn => exact post_writeOr hn trivial (by simp)

theorem pwWait_of_recv {pc : Pc} {σ : Builder.BState} (hr : pc.recv? = some σ) (hl : ¬ Live pc) : pc = .pwWait σ := by
  cases pc <;> cases hr <;> first | rfl | exact absurd trivial hl

/-- Where a step leads: into the connected part of the loop (`Post`), except that a step of the password
wait may go on waiting or fail. -/
theorem step_target {s s' : St} {rf : Bool} (hc : s.pc ≠ .connecting) (h : step s rf = some s') :
    Post s' ∨ ∃ σ, s.pc = .pwWait σ ∧ (s'.pc = .failed ∨ ∃ σ', s'.pc = .pwWait σ') := by
  cases step_sound hc h with
  | spawned _ hi => exact .inl (post_writeOr hi trivial (by simp))
  | timer d _ _ hm => exact .inl (post_move hm)
  | command σ _ _ hx => exact .inl (post_cancel hx)
  | polled σ buf avail kept rp hr _ _ ha =>
    cases ha with
    | pending σ' _ =>
      -- the same program point; it is not `exited`, where nothing is polled
      by_cases hl : Live s.pc
      · exact .inl (post_of_pc ((live_setRecv s.pc σ').mpr hl) (ne_of_recv (recv_setRecv σ' hr)).1)
      · have hpc := pwWait_of_recv hr hl
        exact .inr ⟨σ, hpc, .inr ⟨σ', by show s.pc.setRecv σ' = _; rw [hpc]; rfl⟩⟩
    | pendingCommand σ σ' _ _ hx => exact .inl (post_cancel hx)
    | pwAccepted σ r hpc _ => exact .inl (post_of_pc trivial (by simp [emit]))
    | pwRejected σ r hpc _ => exact .inr ⟨σ, hpc, .inl rfl⟩
    | pwBroken σ it hpc _ => exact .inr ⟨σ, hpc, .inl rfl⟩
    | idleReply σ r f _ _ hi => exact .inl (post_writeOr hi trivial (by simp))
    | cancelled rq σ r f _ _ hs => exact .inl (post_writeOr hs trivial (by simp))
    | reply rq σ r _ hm => exact .inl (post_move hm)
    | replyBroken rq σ it _ _ _ hm => exact .inl (post_move hm)
    -- every other path leaves the loop
    | _ => exact .inl (post_exitLoop _)

theorem step_post (s s' : St) (rf : Bool) (hl : Live s.pc) (h : step s rf = some s') : Post s' :=
  (step_target (fun hc => by rw [hc] at hl; exact hl) h).resolve_right
    fun ⟨σ, hpc, _⟩ => by rw [hpc] at hl; exact hl

theorem step_ne_connecting (s s' : St) (rf : Bool) (hc : s.pc ≠ .connecting) (h : step s rf = some s') :
    s'.pc ≠ .connecting := by
  intro hcon
  rcases step_target hc h with hp | ⟨_, _, hf | ⟨_, hw⟩⟩
  · have := hp.1; rw [hcon] at this; exact this
  · rw [hf] at hcon; cases hcon
  · rw [hw] at hcon; cases hcon

end Mpd.Loop
