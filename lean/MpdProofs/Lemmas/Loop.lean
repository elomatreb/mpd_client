import Mpd.Loop
/-! Basic facts about the run-loop model: what leaving the loop does. -/
namespace Mpd.Loop

theorem emit_pc (s : St) (o : Obs) : (emit s o).pc = s.pc := rfl
theorem emit_queue (s : St) (o : Obs) : (emit s o).queue = s.queue := rfl
theorem emit_obs (s : St) (o : Obs) : (emit s o).obs = s.obs ++ [o] := rfl

theorem foldl_emit_eq {α : Type} (f : α → Obs) (l : List α) (s : St) :
    l.foldl (fun s a => emit s (f a)) s = { s with obs := s.obs ++ l.map f } := by
  induction l generalizing s with
  | nil => simp
  | cons a rest ih => rw [List.foldl_cons, ih]; simp [emit]

/-- **leaving the loop**, in closed form: every queued request is answered `closed` (its responder is
dropped), the event stream ends, the transport is released — in this order; the queue is emptied,
nothing else is observed or changed -/
theorem exitLoop_eq (s : St) :
    exitLoop s = { s with obs := s.obs ++ (s.queue.map (fun r => Obs.resolved r.id .closed) ++
                                            [.eventsEnd, .transportDropped]),
                          queue := [], pc := .exited, fresh := false } := by
  unfold exitLoop
  rw [foldl_emit_eq (fun r : Req => Obs.resolved r.id .closed)]
  simp [emit]

theorem emitEvents_eq (s : St) (f : AFrame) :
    emitEvents s f = { s with obs := s.obs ++ (changedValues f).map Obs.event } :=
  foldl_emit_eq Obs.event (changedValues f) s

theorem exitLoop_spec (s : St) :
    (exitLoop s).pc = .exited ∧ (exitLoop s).queue = [] ∧
    (exitLoop s).obs = s.obs ++ s.queue.map (fun r => Obs.resolved r.id .closed) ++ [.eventsEnd, .transportDropped] := by
  rw [exitLoop_eq]
  exact ⟨rfl, rfl, by simp⟩

theorem step_exited (s : St) (rf : Bool) (h : s.pc = .exited) : step s rf = none := by
  unfold step; rw [h]

theorem step_failed (s : St) (rf : Bool) (h : s.pc = .failed) : step s rf = none := by
  unfold step; rw [h]

end Mpd.Loop
