import MpdProofs.Lemmas.LoopStep
import MpdProofs.Lemmas.Sticky
/-! Invalid data is final, at the level of the connection task: it never hands a later request what was left of a
rejected reply. -/
namespace Mpd.Loop
open Mpd.Builder Mpd.Conn

theorem pollRecv_invalid_state (s : St) (σ : BState) (s1 : St) (h : pollRecv s σ = (s1, .ready .invalid)) :
    feed s1.bstash s1.buf = (s1.bstash, s1.buf, .invalid) := by
  -- `invalid` comes from a parse that needed no more bytes, and such a parse leaves a fixpoint of `feed`
  have hp := poll_of_eq h
  generalize hrp : RecvPoll.ready .invalid = rp at hp
  cases hp with
  | buffered hf hne => exact final_invalid hf (RecvPoll.ready.inj hrp).symm
  | fault k _ _ => cases hrp
  | read _ hf hne => exact final_invalid hf (RecvPoll.ready.inj hrp).symm
  | eof _ _ _ => exact absurd (RecvPoll.ready.inj hrp).symm (eofItem_ne_invalid _ _)
  | pending _ _ _ => cases hrp

/-- **invalid data is final**: any later state with the same receive buffer and builder state —
whatever its transport holds — polls to `invalid` again and leaves both unchanged -/
theorem pollRecv_invalid_final (s : St) (σ : BState) (s1 : St) (h : pollRecv s σ = (s1, .ready .invalid))
    (s2 : St) (hb : s2.buf = s1.buf) (hs : s2.bstash = s1.bstash) :
    pollRecv s2 s2.bstash = ({ s2 with buf := s2.buf, bstash := s2.bstash }, .ready .invalid) := by
  have hst := pollRecv_invalid_state s σ s1 h
  rw [← hb, ← hs] at hst
  unfold pollRecv
  rw [hst]

end Mpd.Loop
