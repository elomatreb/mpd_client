import Mpd.Conn
import MpdProofs.Lemmas.Builder
/-!
One `receive()` call is one `feed` of everything the transport delivers, for scripts of non-empty reads, whatever the
chunking and whatever the size of the blocking connection's fixed, doubling buffer. Both receive loops are
characterised by the outcome of their first parse. At the end: `write_all` over a transport that takes fewer bytes
than offered.
-/
namespace Mpd.Conn
open Mpd.Builder

/-- one call with the whole stream at hand; the builder state it leaves is dropped -/
def recvAll (σ : BState) (s : Bytes) (term : Term) : Item × Bytes :=
  match feed σ s with
  | (_, rest, .done r) => (.resp r, rest)
  | (_, rest, .invalid) => (.invalid, rest)
  | (_, rest, .panic) => (.panic, rest)
  | (σ', rest, .pending) => (termItem term σ' rest, rest)

def NonEmptyChunks (cs : List Bytes) : Prop := ∀ c ∈ cs, c ≠ []

theorem NonEmptyChunks.tail {c : Bytes} {cs : List Bytes} (h : NonEmptyChunks (c :: cs)) : NonEmptyChunks cs :=
  fun x hx => h x (List.mem_cons_of_mem _ hx)

theorem nonEmptyChunks_append {a b : List Bytes} :
    NonEmptyChunks (a ++ b) ↔ NonEmptyChunks a ∧ NonEmptyChunks b := by
  simp only [NonEmptyChunks, List.mem_append]
  exact ⟨fun h => ⟨fun c hc => h c (.inl hc), fun c hc => h c (.inr hc)⟩, fun h c hc => hc.elim (h.1 c) (h.2 c)⟩

theorem eofItem_cases (σ : BState) (u : Bytes) : eofItem σ u = .clean ∨ eofItem σ u = .unexpectedEof := by
  unfold eofItem
  split <;> simp

theorem eofItem_ne_invalid (σ : BState) (u : Bytes) : eofItem σ u ≠ .invalid := by
  rcases eofItem_cases σ u with h | h <;> rw [h] <;> exact Item.noConfusion

theorem eofItem_ne_io (σ : BState) (u : Bytes) (k : Nat) : eofItem σ u ≠ .io k := by
  rcases eofItem_cases σ u with h | h <;> rw [h] <;> exact Item.noConfusion

theorem eofItem_unclean {σ : BState} {rest : Bytes} (hin : inProgress σ = true ∨ rest ≠ []) :
    eofItem σ rest = .unexpectedEof := by
  unfold eofItem
  rcases hin with h | h
  · rw [h, Bool.true_or, if_pos rfl]
  · have : rest.isEmpty = false := by
      cases rest with
      | nil => exact absurd rfl h
      | cons _ _ => rfl
    rw [this, Bool.not_false, Bool.or_true, if_pos rfl]

theorem termItem_cases (t : Term) (σ : BState) (u : Bytes) :
    termItem t σ u = .clean ∨ termItem t σ u = .unexpectedEof ∨ ∃ k, t = .ioerr k ∧ termItem t σ u = .io k := by
  cases t with
  | eof => exact (eofItem_cases σ u).imp id .inl
  | ioerr k => exact .inr (.inr ⟨k, rfl, rfl⟩)

theorem termItem_ne_invalid (t : Term) (σ : BState) (u : Bytes) : termItem t σ u ≠ .invalid := by
  rcases termItem_cases t σ u with h | h | ⟨_, _, h⟩ <;> rw [h] <;> exact Item.noConfusion

theorem termItem_io {t : Term} {σ : BState} {u : Bytes} {j : Nat} (h : termItem t σ u = .io j) : t = .ioerr j := by
  rcases termItem_cases t σ u with h' | h' | ⟨k, rfl, h'⟩ <;> rw [h'] at h <;> cases h
  rfl

theorem isResp_termItem (t : Term) (σ : BState) (u : Bytes) : (termItem t σ u).isResp = false := by
  rcases termItem_cases t σ u with h | h | ⟨_, _, h⟩ <;> rw [h] <;> rfl

theorem isResp_eq_false {it : Item} (h : ∀ r, it ≠ .resp r) : it.isResp = false := by
  cases it with
  | resp r => exact absurd rfl (h r)
  | _ => rfl

/-- the item of a parse that needs no more bytes -/
def finalItem : Out → Item
  | .done r => .resp r
  | .invalid => .invalid
  | _ => .panic

/-- the item of a call whose last parse ended with `out`, leaving `(σ', rest)`, when nothing more can be read -/
def callItem (t : Term) (σ' : BState) (rest : Bytes) : Out → Item
  | .pending => termItem t σ' rest
  | out => finalItem out

theorem callItem_final {out : Out} (ho : out ≠ .pending) (t : Term) (σ' : BState) (rest : Bytes) :
    callItem t σ' rest out = finalItem out := by
  cases out with
  | pending => exact absurd rfl ho
  | _ => rfl

theorem isResp_callItem {t : Term} {σ' : BState} {rest : Bytes} {out : Out}
    (h : (callItem t σ' rest out).isResp = true) : ∃ r, out = .done r := by
  cases out with
  | done r => exact ⟨r, rfl⟩
  | pending =>
    rw [callItem, isResp_termItem] at h
    cases h
  | _ => cases h

theorem callItem_resp_initial {σ σ' : BState} {s rest : Bytes} {out : Out} (hF : feed σ s = (σ', rest, out))
    {t : Term} {u : Bytes} {r : Response} (h : callItem t σ' u out = .resp r) : σ' = .initial := by
  obtain ⟨r', rfl⟩ := isResp_callItem (by rw [h]; rfl)
  exact ((feed_leaves hF).2.1 r' rfl).1

theorem finalItem_eq_resp {out : Out} {r : Response} (h : finalItem out = .resp r) : out = .done r := by
  cases out with
  | done r' =>
    cases h
    rfl
  | _ => cases h

theorem finalItem_ne_io (o : Out) (k : Nat) : finalItem o ≠ .io k := by
  cases o <;> exact Item.noConfusion

theorem recvAll_eq {σ σ' : BState} {s rest : Bytes} {out : Out} (h : feed σ s = (σ', rest, out)) (t : Term) :
    recvAll σ s t = (callItem t σ' rest out, rest) := by
  rw [recvAll, h]
  cases out <;> rfl

theorem recvLoopA_final {σ σ' : BState} {buf rest : Bytes} {out : Out} (h : feed σ buf = (σ', rest, out))
    (ho : out ≠ .pending) (cs : List Bytes) (t : Term) :
    recvLoopA σ buf cs t = (finalItem out, rest, cs, σ') := by
  rw [recvLoopA, h]
  cases out with
  | pending => exact absurd rfl ho
  | _ => rfl

theorem recvLoopA_pending_nil {σ σ' : BState} {buf rest : Bytes} (h : feed σ buf = (σ', rest, .pending)) (t : Term) :
    recvLoopA σ buf [] t = (termItem t σ' rest, rest, [], σ') := by
  rw [recvLoopA, h]

theorem recvLoopA_pending_cons {σ σ' : BState} {buf rest : Bytes} (h : feed σ buf = (σ', rest, .pending))
    (c : Bytes) (cs : List Bytes) (t : Term) :
    recvLoopA σ buf (c :: cs) t =
      if c.isEmpty then (eofItem σ' rest, rest, cs, σ') else recvLoopA σ' (rest ++ c) cs t := by
  rw [recvLoopA, h]

theorem sessionA_succ (fuel extra : Nat) {σ σ' : BState} {buf buf' : Bytes} {cs cs' : List Bytes} {t : Term}
    {it : Item} (h : recvLoopA σ buf cs t = (it, buf', cs', σ')) :
    sessionA (fuel + 1) extra σ buf cs t =
      it :: if it.isResp then sessionA fuel extra σ' buf' cs' t else
        match extra with
        | 0 => []
        | e + 1 => sessionA fuel e σ' buf' cs' t := by
  rw [sessionA, recvA, h]
  cases it <;> cases extra <;> rfl

theorem decodeAll_succ (fuel : Nat) {s rest : Bytes} {σ' : BState} {out : Out} (term : Term)
    (h : feed .initial s = (σ', rest, out)) :
    decodeAll (fuel + 1) s term =
      callItem term σ' rest out :: if (callItem term σ' rest out).isResp then decodeAll fuel rest term else [] := by
  rw [decodeAll, h]
  cases out with
  | pending =>
    show [termItem term σ' rest] = termItem term σ' rest :: if (termItem term σ' rest).isResp then _ else []
    rw [isResp_termItem]
    rfl
  | _ => rfl

theorem cons_ite_congr {it : Item} {A B : List Item} (h : it.isResp = true → A = B) :
    (it :: if it.isResp then A else []) = it :: if it.isResp then B else [] := by
  cases hr : it.isResp with
  | false => rfl
  | true => rw [h hr]

/-- **async, refined to `feed`**: ONE parse of the buffer followed by everything the script delivers gives the builder
state and the bytes the call leaves (buffer, then unread chunks), and an outcome of which the call's item is the reading -/
theorem recvLoopA_feed {σ : BState} {buf : Bytes} {cs : List Bytes} {t : Term} (hne : NonEmptyChunks cs)
    {it : Item} {buf' : Bytes} {cs' : List Bytes} {σ' : BState} (h : recvLoopA σ buf cs t = (it, buf', cs', σ')) :
    ∃ out, feed σ (buf ++ cs.flatten) = (σ', buf' ++ cs'.flatten, out) ∧
      it = callItem t σ' (buf' ++ cs'.flatten) out ∧ NonEmptyChunks cs' := by
  fun_induction recvLoopA σ buf cs t with
  | case4 σ buf t σ₁ rest hf =>
    cases h
    simp only [List.flatten_nil, List.append_nil]
    exact ⟨.pending, hf, rfl, hne⟩
  | case5 σ buf t σ₁ rest hf c cs hc => exact absurd (List.isEmpty_iff.mp hc) (hne c (List.mem_cons_self ..))
  | case6 σ buf t σ₁ rest hf c cs hc ih =>
    rw [List.flatten_cons, feed_append_of_pending hf, ← List.append_assoc]
    exact ih hne.tail h
  | _ =>  -- a final parse: what is still to come stays unconsumed
    rename_i hf
    cases h
    exact ⟨_, feed_append_of_final hf Out.noConfusion _, rfl, hne⟩

/-- **async**: the receive loop equals the whole-stream call, also in what it leaves -/
theorem recvLoopA_eq (σ : BState) (buf : Bytes) (chunks : List Bytes) (term : Term)
    (hne : NonEmptyChunks chunks) :
    let res := recvLoopA σ buf chunks term
    (res.1, res.2.1 ++ res.2.2.1.flatten) = recvAll σ (buf ++ chunks.flatten) term ∧
    NonEmptyChunks res.2.2.1 := by
  obtain ⟨out, hF, hit, hne'⟩ := recvLoopA_feed hne (rfl : recvLoopA σ buf chunks term = (_, _, _, _))
  refine ⟨?_, hne'⟩
  rw [recvAll_eq hF, hit]

theorem readChunk_spec (space : Nat) (c : Bytes) (cs : List Bytes) (hs : 0 < space) (hc : c ≠ []) :
    ∃ got rest, readChunk space (c :: cs) = some (got, rest) ∧ got ≠ [] ∧ got.length ≤ space ∧
      got ++ rest.flatten = c ++ cs.flatten ∧ scriptLen rest < scriptLen (c :: cs) ∧
      (NonEmptyChunks cs → NonEmptyChunks rest) := by
  have hpos : 0 < c.length := List.length_pos_iff.mpr hc
  have hlen (d : Bytes) : scriptLen (d :: cs) = d.length + (scriptLen cs + 1) := by
    rw [scriptLen, List.flatten_cons, List.length_append, List.length_cons, Nat.add_assoc]
    rfl
  rw [readChunk]
  by_cases hle : c.length ≤ space
  · rw [if_pos hle]
    refine ⟨c, cs, rfl, hc, hle, rfl, ?_, id⟩
    rw [hlen]
    exact Nat.lt_add_left _ (Nat.lt_succ_self _)
  · -- the read fills the space; the rest of the chunk stays at the head
    have hlt : space < c.length := Nat.lt_of_not_le hle
    have htl : (c.take space).length = space := List.length_take_of_le (Nat.le_of_lt hlt)
    rw [if_neg hle]
    refine ⟨c.take space, c.drop space :: cs, rfl, fun h => ?_, Nat.le_of_eq htl, ?_, ?_, fun h x hx => ?_⟩
    · rw [h] at htl
      exact absurd htl.symm (Nat.ne_of_gt hs)
    · rw [List.flatten_cons, ← List.append_assoc, List.take_append_drop]
    · rw [hlen, hlen, List.length_drop]
      exact Nat.add_lt_add_right (Nat.sub_lt hpos hs) _
    · rcases List.mem_cons.mp hx with rfl | hx
      · exact fun h0 => hle (List.drop_eq_nil_iff.mp h0)
      · exact h x hx

/-- buffer invariant of the blocking connection: there is always free space to read into -/
def SInv (b : SBuf) : Prop := b.data.length < b.cap

theorem afterRead_inv (b : SBuf) (rest got : Bytes) (h : rest.length + got.length ≤ b.cap) (hc : 0 < b.cap) :
    SInv (afterRead b rest got) := by
  unfold SInv afterRead
  simp only [List.length_append]
  split
  next he =>
    -- the buffer is full and doubles
    rw [he]
    exact (Nat.lt_mul_iff_one_lt_right hc).mpr (Nat.lt_succ_self 1)
  next hne => exact Nat.lt_of_le_of_ne h hne

theorem afterRead_cap (b : SBuf) (rest got : Bytes) : b.cap ≤ (afterRead b rest got).cap := by
  unfold afterRead
  dsimp only
  split
  · exact Nat.le_mul_of_pos_right _ (Nat.zero_lt_succ 1)
  · exact Nat.le_refl _

theorem recvLoopS_final {σ σ' : BState} {b : SBuf} {rest : Bytes} {out : Out} (hcap : ¬ b.cap < b.data.length)
    (h : feed σ b.data = (σ', rest, out)) (ho : out ≠ .pending) (fuel : Nat) (cs : List Bytes) (t : Term) :
    recvLoopS (fuel + 1) σ b cs t = (finalItem out, { b with data := rest }, cs, σ') := by
  rw [recvLoopS, if_neg hcap, h]
  cases out with
  | pending => exact absurd rfl ho
  | _ => rfl

theorem recvLoopS_pending {σ σ' : BState} {b : SBuf} {rest : Bytes} (hcap : ¬ b.cap < b.data.length)
    (h : feed σ b.data = (σ', rest, .pending)) (fuel : Nat) (cs : List Bytes) (t : Term) :
    recvLoopS (fuel + 1) σ b cs t =
      match readChunk (b.cap - rest.length) cs with
      | none => (termItem t σ' rest, { b with data := rest }, [], σ')
      | some (got, cs') =>
        if got.isEmpty then (eofItem σ' rest, { b with data := rest }, cs', σ')
        else recvLoopS fuel σ' (afterRead b rest got) cs' t := by
  rw [recvLoopS, if_neg hcap, h]
  rfl

theorem sessionS_succ (fuel extra : Nat) {σ σ' : BState} {b b' : SBuf} {cs cs' : List Bytes} {t : Term}
    {it : Item} (h : recvLoopS (scriptLen cs + 1) σ b cs t = (it, b', cs', σ')) :
    sessionS (fuel + 1) extra σ b cs t =
      it :: if it.isResp then sessionS fuel extra σ' b' cs' t else
        match extra with
        | 0 => []
        | e + 1 => sessionS fuel e σ' b' cs' t := by
  rw [sessionS, recvS, h]
  cases it <;> cases extra <;> rfl

/-- **blocking, refined to `feed`**: as `recvLoopA_feed`; a pending outcome means the script is used up. Enough fuel is
either given or known from the item not being the out-of-fuel `panic`. -/
theorem recvLoopS_feed {fuel : Nat} {σ : BState} {b : SBuf} {cs : List Bytes} {t : Term}
    (hne : NonEmptyChunks cs) (hinv : SInv b)
    {it : Item} {b' : SBuf} {cs' : List Bytes} {σ' : BState} (h : recvLoopS fuel σ b cs t = (it, b', cs', σ'))
    (hfuel : scriptLen cs < fuel ∨ it ≠ .panic) :
    ∃ out, feed σ (b.data ++ cs.flatten) = (σ', b'.data ++ cs'.flatten, out) ∧
      it = callItem t σ' (b'.data ++ cs'.flatten) out ∧
      (out = .pending → cs' = []) ∧ NonEmptyChunks cs' ∧ SInv b' ∧ b.cap ≤ b'.cap := by
  induction fuel generalizing σ b cs with
  | zero =>
    cases h
    exact hfuel.elim (fun h => absurd h (Nat.not_lt_zero _)) (fun h => absurd rfl h)
  | succ fuel ih =>
    have hcap : ¬ b.cap < b.data.length := Nat.not_lt.mpr (Nat.le_of_lt hinv)
    rcases feed_pending_or_final σ b.data with ⟨σ₁, rest, hf⟩ | ⟨σ₁, rest, out, hf, ho⟩
    · have hrl := (feed_leaves hf).1
      have hlt : rest.length < b.cap := Nat.lt_of_le_of_lt hrl hinv
      rw [recvLoopS_pending hcap hf] at h
      cases cs with
      | nil =>
        cases h
        refine ⟨.pending, ?_, ?_, fun _ => rfl, hne, hlt, Nat.le_refl _⟩ <;> rw [List.flatten_nil, List.append_nil]
        · rw [List.append_nil]
          exact hf
        · rfl
      | cons c cs =>
        obtain ⟨got, rs, hrc, hgot, hgl, hflat, hsl, hner⟩ :=
          readChunk_spec (b.cap - rest.length) c cs (Nat.sub_pos_of_lt hlt) (hne c (List.mem_cons_self ..))
        have hge : got.isEmpty = false := by simpa using hgot
        rw [hrc] at h
        dsimp only at h
        rw [hge] at h
        obtain ⟨out, hF, hit, hend, hne', hinv', hcap'⟩ :=
          ih (hner hne.tail)
            (afterRead_inv b rest got (Nat.add_le_of_le_sub' (Nat.le_of_lt hlt) hgl) (Nat.zero_lt_of_lt hlt)) h
            (hfuel.imp (fun hf' => Nat.lt_of_lt_of_le hsl (Nat.le_of_lt_succ hf')) id)
        refine ⟨out, ?_, hit, hend, hne', hinv', Nat.le_trans (afterRead_cap b rest got) hcap'⟩
        rw [List.flatten_cons, feed_append_of_pending hf, ← hflat, ← List.append_assoc]
        exact hF
    · have hrl := (feed_leaves hf).1
      rw [recvLoopS_final hcap hf ho] at h
      cases h
      exact ⟨out, feed_append_of_final hf ho _, (callItem_final ho ..).symm, fun hp => absurd hp ho, hne,
        Nat.lt_of_le_of_lt hrl hinv, Nat.le_refl _⟩

/-- **blocking**: with enough fuel the same; the buffer bookkeeping introduces no `panic` -/
theorem recvLoopS_eq (fuel : Nat) (σ : BState) (b : SBuf) (chunks : List Bytes) (term : Term)
    (hne : NonEmptyChunks chunks) (hinv : SInv b) (hfuel : scriptLen chunks < fuel) :
    let res := recvLoopS fuel σ b chunks term
    (res.1, res.2.1.data ++ res.2.2.1.flatten) = recvAll σ (b.data ++ chunks.flatten) term ∧
    NonEmptyChunks res.2.2.1 ∧ SInv res.2.1 ∧ res.2.1.cap ≥ b.cap := by
  obtain ⟨out, hF, hit, hend, hne', hinv', hcap'⟩ :=
    recvLoopS_feed hne hinv (rfl : recvLoopS fuel σ b chunks term = (_, _, _, _)) (.inl hfuel)
  refine ⟨?_, hne', hinv', hcap'⟩
  rw [recvAll_eq hF, hit]

/-- **short writes are invisible on the wire**: for any capacities ≥ 1, `write_all` succeeds and the
pieces it writes are, in order, exactly the buffer -/
theorem writeAll_flatten (caps : List Nat) (buf : Bytes) (h : ∀ c ∈ caps, 1 ≤ c) :
    ∃ ps, writeAll caps buf = some ps ∧ ps.flatten = buf ∧ ∀ p ∈ ps, p ≠ [] := by
  fun_induction writeAll caps buf with
  | case1 buf =>
    cases buf with
    | nil => exact ⟨[], rfl, rfl, nofun⟩
    | cons b bs => exact ⟨[b :: bs], rfl, List.append_nil _, fun p hp => List.mem_singleton.mp hp ▸ List.cons_ne_nil _ _⟩
  | case2 c cs buf hb => exact ⟨[], rfl, (List.isEmpty_iff.mp hb).symm, nofun⟩
  | case3 cs buf hb => exact absurd (h 0 (List.mem_cons_self ..)) (by decide)
  | case4 c cs buf hb hc ih =>
    obtain ⟨ps, h1, h2, h3⟩ := ih fun x hx => h x (List.mem_cons_of_mem _ hx)
    rw [h1]
    refine ⟨_, rfl, by rw [List.flatten_cons, h2, List.take_append_drop], fun p hp => ?_⟩
    rcases List.mem_cons.mp hp with rfl | hp
    · -- the transport takes at least one byte of a non-empty buffer
      cases buf with
      | nil => exact absurd rfl hb
      | cons b bs =>
        cases c with
        | zero => exact absurd rfl hc
        | succ n => exact List.cons_ne_nil _ _
    · exact h3 p hp

/-- a transport that accepts nothing (`Ok(0)`) is reported, not retried forever -/
theorem writeAll_zero (cs : List Nat) (b : UInt8) (bs : Bytes) : writeAll (0 :: cs) (b :: bs) = none := by
  simp [writeAll]

end Mpd.Conn
