import MpdProofs.Lemmas.F64
import MpdProofs.Lemmas.Decimal
/-!
Exactness of `parse_duration` (model: `F64.decodeDuration`) on what MPD prints, from an upper bound on the
exponent chosen by `flog2`, the half-quantum error bound of the round-half-even division `rhe`, and uniqueness
of the nearest integer.
-/
namespace Mpd.F64

/-- `inf`, `infinity` and `nan` in any case do not start with a digit -/
theorem not_special (b : UInt8) (hb : isDigit b = true) (rest : Bytes) :
    (decide (toLower b :: rest = str "inf") || decide (toLower b :: rest = str "infinity") ||
      decide (toLower b :: rest = str "nan")) = false := by
  -- a digit is no upper-case letter, so `toLower` leaves it alone; and it is neither `i` (105) nor `n` (110)
  have hl : toLower b = b := by
    unfold isDigit at hb
    rw [Bool.and_eq_true, decide_eq_true_eq, decide_eq_true_eq] at hb
    unfold toLower isUpper
    rw [if_neg]
    intro h
    rw [Bool.and_eq_true, decide_eq_true_eq, decide_eq_true_eq] at h
    exact absurd (UInt8.le_trans h.1 hb.2) (by decide)
  have hd : b ≠ 105 ∧ b ≠ 110 := by
    refine ⟨?_, ?_⟩ <;> (intro e; subst e; revert hb; decide)
  have hs : ∀ k ∈ [str "inf", str "infinity", str "nan"], k.head? = some 105 ∨ k.head? = some 110 := by
    decide +kernel
  have : ∀ k ∈ [str "inf", str "infinity", str "nan"], toLower b :: rest ≠ k := by
    intro k hk e
    rw [hl] at e
    rcases hs k hk with h | h <;> simp [← e] at h
    · exact hd.1 h
    · exact hd.2 h
  simp [this]

/-- `digits` or `digits.digits` (`dot`) without sign or exponent -/
theorem parseDec_plain (ip fp : Bytes) (dot : Bool) (hne : ip ≠ []) (hi : ip.all isDigit = true)
    (hf : fp.all isDigit = true) (hd : dot = false → fp = []) :
    parseDec (ip ++ if dot then 46 :: fp else []) =
      .num false (digitsVal (ip ++ fp)) (ip.length + fp.length) (-(fp.length : Int)) := by
  obtain ⟨b, t, rfl⟩ : ∃ b t, ip = b :: t := List.exists_cons_of_ne_nil hne
  have hb : isDigit b = true := by simp only [List.all_cons, Bool.and_eq_true] at hi; exact hi.1
  obtain ⟨s1, s2, _⟩ := isDigit_ne_sign b hb
  have t1 := takeWhile_digits (b :: t) (if dot then 46 :: fp else []) hi (by
    intro b' t' h; cases dot <;> simp at h; rw [← h.1]; decide)
  have t2 := takeWhile_digits fp [] hf (by intro b' t' h; simp at h)
  simp only [List.append_nil] at t2
  simp only [List.cons_append] at t1 ⊢
  unfold parseDec
  -- the sign match of `parseDec` on a digit: its third arm (no sign), by the generated equation of that matcher,
  -- whose two side conditions say that the first byte is neither `+` nor `-`
  rw [parseDec.match_1.eq_3 _ _ _ _ _ (fun t h => s1 (List.cons.inj h).1)
    (fun t h => s2 (List.cons.inj h).1)]
  simp only [List.map_cons, not_special b hb, Bool.false_eq_true, if_false, t1.1, t1.2]
  cases dot with
  | true => simp [t2.1, t2.2]
  | false => simp [hd rfl]

/-- the last step of `decodeDuration` (`Duration::try_from_secs_f64`) on a finite value whose exponent
is not positive: nanoseconds by round-half-even, no overflow -/
theorem decodeDuration_of_num (s : Bytes) (d nd : Nat) (x : Int) (h : parseDec s = .num false d nd x)
    (h1 : ¬ x + nd > 400) (h2 : ¬ x + nd < -400) {m : Nat} {e : Int} (he : e ≤ 1)
    (hv : (if x ≥ 0 then round64 (d * 10 ^ x.toNat) 1 else round64 d (10 ^ (-x).toNat)) = .fin m e) :
    decodeDuration s =
      some (rhe ((Val.fin m e).num * 1000000000) (Val.fin m e).den / 1000000000,
            rhe ((Val.fin m e).num * 1000000000) (Val.fin m e).den % 1000000000) := by
  unfold decodeDuration
  rw [h]
  by_cases hd : d = 0
  · -- zero is rounded to `.fin 0 0`, and is `(0, 0)` on both sides
    have hm : m = 0 := by
      subst hd
      split at hv <;> simp [round64] at hv <;> exact hv.1.symm
    simp [hd, hm, Val.num, rhe]
  simp only [hd, h1, h2, if_false, hv]
  cases m with
  | zero => simp [Val.num, rhe]
  | succ m =>
    have : ¬ (e + 52 ≥ 64 ∧ m + 1 ≥ pow2 52) := by omega
    simp [this]

/-- `%1.3f` below 2^23 s is decoded exactly: the binary64 grid there is finer than 2^-30 s, so rounding to
binary64 and then to nanoseconds gives back the milliseconds -/
theorem decodeDuration_fmt3 (ms : Nat) (h : ms < 2 ^ 23 * 1000) :
    decodeDuration (Spec.fmt3 ms) = some (ms / 1000, ms % 1000 * 1000000) := by
  have hp := parseDec_plain (Spec.decimal (ms / 1000)) [Spec.digit (ms / 100), Spec.digit (ms / 10), Spec.digit ms] true
    (decimal_ne_nil _) (decimal_digits _) (by simp [spec_digit_isDigit]) (by simp)
  have hv : digitsVal (Spec.decimal (ms / 1000) ++ [Spec.digit (ms / 100), Spec.digit (ms / 10), Spec.digit ms]) = ms := by
    rw [digitsVal, List.foldl_append, ← digitsVal, decimal_val]
    simp only [List.foldl_cons, List.foldl_nil, spec_digit_val]
    -- Horner: each of the three steps is `n / 10 * 10 + n % 10 = n`
    rw [← Nat.div_div_eq_div_mul ms 100 10, Nat.div_add_mod', ← Nat.div_div_eq_div_mul ms 10 10, Nat.div_add_mod',
      Nat.div_add_mod']
  -- 10^7 > 2^23: the digit count is far from the ±400 guards of `decodeDuration`
  have hlen : (Spec.decimal (ms / 1000)).length ≤ 7 := decimal_eq _ ▸ natToDec_length_le _ 7 (by omega) (by decide)
  rw [hv] at hp
  simp only [↓reduceIte, List.length_cons, List.length_nil] at hp
  unfold Spec.fmt3
  obtain ⟨K, m, e, hK, he, hr, hval⟩ := round64_small ms 1000 23 h (by decide)
  rw [decodeDuration_of_num _ _ _ _ hp (by omega) (by omega) he (by simpa using hr)]
  obtain ⟨e1, e2⟩ := rhe_err (ms * 2 ^ K) 1000 (by decide)
  have hP : 2 ^ 30 ≤ 2 ^ K := Nat.pow_le_pow_right (by decide) (by omega)
  have : rhe ((Val.fin m e).num * 1000000000) (Val.fin m e).den = ms * 1000000 :=
    rhe_of_frac (m := rhe (ms * 2 ^ K) 1000 * 1000000000) (P := 2 ^ K) _ (den_pos _)
      (by rw [Nat.mul_right_comm, hval, Nat.mul_right_comm])
      (by rw [Nat.mul_right_comm ms]; omega) (by rw [Nat.mul_right_comm ms]; omega)
  rw [this, Nat.mul_div_mul_right ms 1000 (by decide : 0 < 1000000),
    Nat.mul_mod_mul_right 1000000 ms 1000]

/-- whole seconds below 2^53 are binary64 values: nothing is rounded -/
theorem decodeDuration_decimal (s : Nat) (h : s < 2 ^ 53) :
    decodeDuration (Spec.decimal s) = some (s, 0) := by
  have hp := parseDec_plain (Spec.decimal s) [] false (decimal_ne_nil _) (decimal_digits _) (by simp) (by simp)
  simp only [Bool.false_eq_true, if_false, List.append_nil, List.length_nil, Nat.add_zero, Int.natCast_zero, Int.neg_zero] at hp
  rw [decimal_val] at hp
  have hlen : (Spec.decimal s).length ≤ 16 := decimal_eq _ ▸ natToDec_length_le _ 16 (by omega) (by decide)
  obtain ⟨-, m, e, -, he, hr, -⟩ := round64_small s 1 53 (by omega) (by decide)
  have hx := round64_exact s h
  rw [hr] at hx
  rw [decodeDuration_of_num _ _ _ _ hp (by omega) (by omega) he (by simpa using hr), hx, Nat.mul_right_comm,
    rhe_exact _ _ (den_pos _), Nat.mul_div_cancel s (by decide), Nat.mul_mod_left]

end Mpd.F64
