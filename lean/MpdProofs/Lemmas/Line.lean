import MpdProofs.Lemmas.Tok
/-!
# Arguments that MPD reads back
-/
namespace Mpd.CmdsL
open Mpd.Cmd Spec.Tok Mpd.TokL

/-- `r` passes `validate_argument`, starts and ends with a non-blank, and MPD's `NextParam` reads it back as
`a` whatever follows: `TokL.Reads r (some a)` plus `TokL.Clean r` -/
structure Enc (r a : Bytes) : Prop where
  clean : Clean r
  head : ∃ b t, r = b :: t ∧ isWs b = false
  ends : EndsNW r
  read : ∀ rest, WsOrEnd rest → nextParam (r ++ rest) = some (a, stripLeft rest)

theorem Enc.reads {r a : Bytes} (h : Enc r a) : Reads r (some a) :=
  ⟨⟨h.head, h.ends, h.clean.2⟩, h.read⟩

theorem Enc.of_reads {r a : Bytes} (h : Reads r (some a)) (hc : Clean r) : Enc r a :=
  ⟨hc, h.head, h.ends, h.read⟩

def encArgs (rs : List Bytes) : Bytes := rs.flatMap fun r => SPACE :: r

theorem encArgs_eq_args (rs : List Bytes) : encArgs rs = args rs := rfl

@[simp] theorem encArgs_nil : encArgs [] = [] := rfl
@[simp] theorem encArgs_cons (r : Bytes) (rs : List Bytes) : encArgs (r :: rs) = SPACE :: (r ++ encArgs rs) := by
  simp only [encArgs_eq_args, args_cons]

/-- a list of (rendering, read-back argument) pairs -/
abbrev Pairs := List (Bytes × Bytes)

def Pairs.rs (ps : Pairs) : List Bytes := ps.map (·.1)
def Pairs.as (ps : Pairs) : List Bytes := ps.map (·.2)

/-- `TokL.tokenizeLine_args` where every piece is read back -/
theorem tokenizeLine_encLine {n : Bytes} (hn : NameOk n) (ps : Pairs) (h : ∀ p ∈ ps, Enc p.1 p.2) :
    tokenizeLine (n ++ encArgs ps.rs) = some (n, ps.as) := by
  have := tokenizeLine_args (·.1) (fun p => some p.2) hn ps fun p hp => (h p hp).reads
  rwa [(mapM_eq_some_map_iff _ (·.2) ps).mpr fun _ _ => rfl, ← encArgs_eq_args] at this

theorem tokenizeStream_encLine {n : Bytes} (hn : NameOk n) (ps : Pairs) (h : ∀ p ∈ ps, Enc p.1 p.2) :
    tokenizeStream (sendBytes (n ++ encArgs ps.rs)) = some [some (n, ps.as)] := by
  have hc : Clean (args ps.rs) := clean_args _ (List.forall_mem_map.mpr fun p hp => (h p hp).clean)
  rw [tokenizeStream_sendBytes _ (encArgs_eq_args _ ▸ (hn.clean.append hc).1), tokenizeLine_encLine hn ps h]

end Mpd.CmdsL
