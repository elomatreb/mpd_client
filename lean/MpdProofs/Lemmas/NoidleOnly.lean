import MpdProofs.Lemmas.LoopInv
/-!
`nn e` counts the `noidle` writes (by call site, ghost `WKind`) in a piece of the log. Every sub-routine but
`startCancel` writes none; `startCancel`, reached only from `idling`, writes at most one.
-/
namespace Mpd.Loop
open Mpd.Builder

def nn (e : List Obs) : Nat :=
  (e.filter fun o => match o with | .wrote _ .noidle => true | _ => false).length

@[simp] theorem nn_append (a b : List Obs) : nn (a ++ b) = nn a + nn b := by simp [nn, List.filter_append]
@[simp] theorem nn_nil : nn [] = 0 := rfl

/-- the step's contribution to the log contains at most `k` `noidle` writes -/
def ExtK (k : Nat) (s s' : St) : Prop := ∃ e, s'.obs = s.obs ++ e ∧ nn e ≤ k

theorem extk_trans {a b c : St} {j k : Nat} (h1 : ExtK j a b) (h2 : ExtK k b c) : ExtK (j + k) a c := by
  obtain ⟨e1, h1, n1⟩ := h1
  obtain ⟨e2, h2, n2⟩ := h2
  exact ⟨e1 ++ e2, by rw [h2, h1, List.append_assoc], by rw [nn_append]; exact Nat.add_le_add n1 n2⟩
theorem extk_mono {a b : St} {j k : Nat} (h : ExtK j a b) (hjk : j ≤ k) : ExtK k a b := by
  obtain ⟨e, h1, n1⟩ := h; exact ⟨e, h1, Nat.le_trans n1 hjk⟩
theorem extk_zero_trans {a b c : St} (h1 : ExtK 0 a b) (h2 : ExtK 0 b c) : ExtK 0 a c := extk_trans h1 h2

theorem extk_emit (s : St) (o : Obs) (ho : nn [o] = 0) : ExtK 0 s (emit s o) := ⟨[o], rfl, Nat.le_of_eq ho⟩

theorem nn_map_resolved (q : List Req) : nn (q.map fun r => Obs.resolved r.id .closed) = 0 := by
  simp [nn, List.filter_map, Function.comp_def]
theorem nn_map_event (l : List Bytes) : nn (l.map Obs.event) = 0 := by
  simp [nn, List.filter_map, Function.comp_def]

theorem extk_exitLoop (s : St) : ExtK 0 s (exitLoop s) := by
  refine ⟨_, by rw [(exitLoop_spec s).2.2, List.append_assoc], ?_⟩
  rw [nn_append, nn_map_resolved]
  exact Nat.le_refl 0

theorem extk_emitEvents (s : St) (f : AFrame) : ExtK 0 s (emitEvents s f) :=
  ⟨_, (emitEvents_obs s f).1, Nat.le_of_eq (nn_map_event _)⟩

theorem extk_of_obs {k : Nat} {s s1 x : St} (h : s1.obs = s.obs) (hx : ExtK k s1 x) : ExtK k s x := by
  obtain ⟨e, he, hn⟩ := hx
  exact ⟨e, by rw [he, h], hn⟩

theorem extk_exit_emit (s : St) (o : Obs) (ho : nn [o] = 0) : ExtK 0 s (exitLoop (emit s o)) :=
  extk_zero_trans (extk_emit s o ho) (extk_exitLoop _)

theorem extk_failConnect (s : St) (o : ConnectOutcome) : ExtK 0 s (failConnect s o) :=
  extk_of_obs (s1 := { s with pc := .failed }) rfl (extk_zero_trans (extk_emit _ _ rfl) (extk_emit _ _ rfl))

/-- a write logs its own line and nothing else that could be a `noidle` -/
theorem extk_writeOr {b : Bytes} {w : WKind} {pc : BState → Pc} {o : Nat → Obs} {x x' : St}
    (h : WriteOr b w pc o x x') (ho : ∀ k, nn [o k] = 0) : ExtK (nn [.wrote b w]) x x' := by
  cases h with
  | ok _ => exact ⟨[.wrote b w], rfl, Nat.le_refl _⟩
  | fail k _ => exact extk_mono (extk_exit_emit x _ (ho k)) (Nat.zero_le _)

theorem extk_move {d : Nat} {x x' : St} (h : Move d x x') : ExtK 0 x x' := by
  cases h with
  | serve r q _ hs => exact extk_of_obs (s1 := { x with queue := q }) rfl (extk_writeOr hs fun _ => rfl)
  | leave => exact extk_exitLoop x
  | reidle _ _ _ hi => exact extk_writeOr hi fun _ => rfl
  | wait => exact ⟨[], by simp, by simp⟩

theorem extk_cancel {x x' : St} (h : Cancel x x') : ExtK 1 x x' := by
  cases h with
  | leave => exact extk_mono (extk_exitLoop x) (Nat.zero_le _)
  | noidle r q _ hn => exact extk_of_obs (s1 := { x with queue := q }) rfl (extk_writeOr hn fun _ => rfl)

/-- no path after a poll writes a `noidle`, except the one that runs `startCancel`, from `idling` -/
theorem extk_after {x s' : St} {rp : RecvPoll} (h : After x rp s') :
    ExtK 0 x s' ∨ ∃ σ, x.pc = .idling σ ∧ ExtK 1 x s' := by
  cases h with
  | pendingCommand σ σ' hpc _ hx => exact .inr ⟨σ, hpc, extk_of_obs (s1 := dropFuture x σ') rfl (extk_cancel hx)⟩
  | pending σ' => exact .inl ⟨[], by simp, by simp⟩
  | pwAccepted σ r => exact .inl (extk_of_obs (s1 := { x with pc := .spawned }) rfl (extk_emit _ _ rfl))
  | pwRejected σ _ | pwBroken σ _ => exact .inl (extk_failConnect x _)
  | idleReply σ r f _ _ hw | cancelled _ σ r f _ _ hw =>
    exact .inl (extk_zero_trans (extk_emitEvents x f) (extk_writeOr hw fun _ => rfl))
  | idleEmpty σ _ | idleClean σ => exact .inl (extk_exitLoop x)
  -- one observation that is no `noidle`, then the loop is left
  | idleError σ _ _ | idleBroken σ _ | cancelEmpty _ σ _ | cancelBroken _ σ _ | replyClean _ σ =>
    exact .inl (extk_exit_emit x _ rfl)
  | cancelError rq σ r e => exact .inl (extk_zero_trans (extk_emit x _ rfl) (extk_exit_emit _ _ rfl))
  | reply rq σ _ _ hm | replyBroken rq σ _ _ _ _ hm =>
    exact .inl (extk_zero_trans (extk_emit x _ rfl) (extk_move hm))

/-- **`noidle` only from idling**: a step from `idling` writes at most one, a step from any other program point none -/
theorem step_noidle (s s' : St) (rf : Bool) (hc : s.pc ≠ .connecting) (h : step s rf = some s') :
    ExtK (match s.pc with | .idling _ => 1 | _ => 0) s s' := by
  suffices h : ExtK 0 s s' ∨ ∃ σ, s.pc = .idling σ ∧ ExtK 1 s s' by
    rcases h with h | ⟨σ, hpc, h⟩
    · exact extk_mono h (Nat.zero_le _)
    · rw [hpc]; exact h
  cases step_sound hc h with
  | spawned _ hi => exact .inl (extk_writeOr hi fun _ => rfl)
  | timer d _ _ hm => exact .inl (extk_move hm)
  | command σ hpc _ hx => exact .inr ⟨σ, hpc, extk_of_obs (s1 := dropFuture s σ) rfl (extk_cancel hx)⟩
  -- the poll logs nothing and keeps the program point
  | polled σ buf avail kept rp _ _ _ ha => exact extk_after (x := s.polled buf avail kept) ha

end Mpd.Loop
