import Mpd.Typed.Song
import MpdSpec.Listing
import MpdProofs.Lemmas.Bytes
import MpdProofs.Lemmas.List
import MpdProofs.C20
import MpdProofs.Lemmas.Decimal
import MpdProofs.Lemmas.Outcome
/-!
First half (`Mpd.SongLemmas`): how each component of `Spec.songOf` (`MpdSpec/Listing.lean`) changes
under one more line (the decoder is a fold, the specification is not), and that the crate's tag and
value parsers read what the specification reads. Second half (`Mpd.C14`): the decoder of
`responses/song.rs` on its own.
-/
namespace Mpd.SongLemmas
open Mpd.Typed

/-- strictly increasing by `cmpBytes`: the canonical order of the tag names in `Spec.AbsSong.tags` -/
def Sorted (l : List Bytes) : Prop := l.Pairwise (fun a b => cmpBytes a b < 0)

theorem mem_insertName (n x : Bytes) (S : List Bytes) :
    x ∈ Spec.insertName n S ↔ x = n ∨ x ∈ S := by
  induction S with
  | nil => simp [Spec.insertName]
  | cons m ms ih =>
    simp only [Spec.insertName]
    split
    · rename_i h; subst h; simp
    · split
      · simp
      · simp only [List.mem_cons, ih]
        exact or_left_comm

theorem insertName_sorted (n : Bytes) (S : List Bytes) (h : Sorted S) : Sorted (Spec.insertName n S) := by
  induction S with
  | nil => simp [Spec.insertName, Sorted]
  | cons m ms ih =>
    simp only [Spec.insertName]
    have hm := List.pairwise_cons.mp h
    split
    · exact h
    · rename_i hne
      split
      · rename_i hlt
        refine List.pairwise_cons.mpr ⟨?_, h⟩
        intro x hx
        rcases List.mem_cons.mp hx with rfl | hx
        · exact hlt
        · exact cmpBytes_lt_trans hlt (hm.1 x hx)
      · rename_i hnlt
        refine List.pairwise_cons.mpr ⟨?_, ih hm.2⟩
        intro x hx
        rcases (mem_insertName n x ms).mp hx with rfl | hx
        · exact cmpBytes_lt_of_not_lt_ne hnlt hne
        · exact hm.1 x hx

theorem sortNames_snoc (l : List Bytes) (n : Bytes) :
    Spec.sortNames (l ++ [n]) = Spec.insertName n (Spec.sortNames l) := by
  simp [Spec.sortNames, List.foldl_append]

theorem sortNames_sorted (l : List Bytes) : Sorted (Spec.sortNames l) := by
  induction l using snoc_induction with
  | nil => exact List.Pairwise.nil
  | snoc l n ih => rw [sortNames_snoc]; exact insertName_sorted n _ ih

theorem mem_sortNames (l : List Bytes) (x : Bytes) : x ∈ Spec.sortNames l ↔ x ∈ l := by
  induction l using snoc_induction with
  | nil => exact Iff.rfl
  | snoc l n ih => rw [sortNames_snoc, mem_insertName, ih, List.mem_append, List.mem_singleton, or_comm]

/-- what an observer of the hash map sees: (protocol name, values) -/
def absTags (m : TagMap) : List (Bytes × List Bytes) := m.map (fun e => (e.1.name, e.2))

/-- `TagMap.push` on the name view -/
def pushN : List (Bytes × List Bytes) → Bytes → Bytes → List (Bytes × List Bytes)
  | [], n, v => [(n, [v])]
  | (m, vs) :: rest, n, v =>
    if n = m then (m, vs ++ [v]) :: rest
    else if cmpBytes n m < 0 then (n, [v]) :: (m, vs) :: rest
    else (m, vs) :: pushN rest n v

theorem absTags_push (m : TagMap) (t : Tag) (v : Bytes) :
    absTags (m.push t v) = pushN (absTags m) t.name v := by
  induction m with
  | nil => rfl
  | cons e rest ih =>
    obtain ⟨t', vs⟩ := e
    simp only [TagMap.push, absTags, List.map_cons, pushN]
    -- both sides branch on the same two tests
    by_cases h1 : t.name = t'.name
    · rw [if_pos h1, if_pos h1]
      rfl
    rw [if_neg h1, if_neg h1]
    by_cases h2 : cmpBytes t.name t'.name < 0
    · rw [if_pos h2, if_pos h2]
      rfl
    rw [if_neg h2, if_neg h2, List.map_cons]
    exact congrArg _ ih

theorem valuesOf_snoc (tl : List (Bytes × Bytes)) (n v m : Bytes) :
    Spec.valuesOf (tl ++ [(n, v)]) m = Spec.valuesOf tl m ++ (if n = m then [v] else []) := by
  simp only [Spec.valuesOf, List.filter_append, List.map_append]
  by_cases h : n = m <;> simp [h]

theorem valuesOf_nil (tl : List (Bytes × Bytes)) (m : Bytes) (h : m ∉ tl.map (·.1)) :
    Spec.valuesOf tl m = [] := by
  simp only [Spec.valuesOf, List.map_eq_nil_iff, List.filter_eq_nil_iff]
  intro e he heq
  apply h
  simp only [List.mem_map]
  exact ⟨e, he, by simpa using heq⟩

theorem pushN_map (S : List Bytes) (f g : Bytes → List Bytes) (n v : Bytes)
    (hS : Sorted S) (hg : ∀ m, m ≠ n → g m = f m) (hn : g n = f n ++ [v])
    (hnew : n ∉ S → f n = []) :
    pushN (S.map (fun m => (m, f m))) n v = (Spec.insertName n S).map (fun m => (m, g m)) := by
  induction S with
  | nil =>
    simp [pushN, Spec.insertName, hn, hnew]
  | cons m ms ih =>
    have hm := List.pairwise_cons.mp hS
    -- off `n` the two value functions agree, and a name that is not above the head is not in the tail
    have hoff : ∀ T : List Bytes, n ∉ T → T.map (fun m => (m, g m)) = T.map (fun m => (m, f m)) :=
      fun T hT => List.map_congr_left fun x hx => by rw [hg x fun e => hT (e ▸ hx)]
    have htail : ¬ cmpBytes m n < 0 → n ∉ ms := fun hle h => hle (hm.1 n h)
    simp only [List.map_cons, pushN, Spec.insertName]
    -- both sides branch on the same two tests
    by_cases hne : n = m
    · subst hne
      rw [if_pos rfl, if_pos rfl, List.map_cons, hn, hoff ms (htail (cmpBytes_lt_irrefl n))]
    rw [if_neg hne, if_neg hne]
    by_cases hlt : cmpBytes n m < 0
    · have hnot : n ∉ m :: ms := by
        rw [List.mem_cons, not_or]
        exact ⟨hne, htail fun h => cmpBytes_lt_irrefl n (cmpBytes_lt_trans hlt h)⟩
      rw [if_pos hlt, if_pos hlt, List.map_cons, hn, hnew hnot, List.nil_append, hoff _ hnot, List.map_cons]
    rw [if_neg hlt, if_neg hlt, List.map_cons, hg m (Ne.symm hne),
      ih hm.2 fun hnm => hnew fun hmem => (List.mem_cons.mp hmem).elim hne hnm]

theorem tagsOfLines_snoc (tl : List (Bytes × Bytes)) (n v : Bytes) :
    Spec.tagsOfLines (tl ++ [(n, v)]) = pushN (Spec.tagsOfLines tl) n v := by
  simp only [Spec.tagsOfLines, List.map_append, List.map_cons, List.map_nil, sortNames_snoc]
  symm
  apply pushN_map _ _ _ _ _ (sortNames_sorted _)
  · intro m hm
    simp [valuesOf_snoc, Ne.symm hm]
  · simp [valuesOf_snoc]
  · intro h
    apply valuesOf_nil
    intro hmem
    exact h ((mem_sortNames _ _).mpr hmem)

theorem tagsOf_snoc (pre : List (Bytes × Bytes)) (k v : Bytes) :
    Spec.tagsOf (pre ++ [(k, v)]) =
      if Spec.isAttrKey k then Spec.tagsOf pre else pushN (Spec.tagsOf pre) (Spec.canonTag k) v := by
  simp only [Spec.tagsOf, Spec.tagLines, List.filter_append, List.map_append]
  cases h : Spec.isAttrKey k
  · simp [List.filter, h, tagsOfLines_snoc]
  · simp [List.filter, h]

/-- the specification lists the protocol names of the crate's variants, in the order of MPD's table;
closes by unfolding `TagV.name`, no name is evaluated -/
theorem knownTagNames_eq : Spec.knownTagNames =
    ([.Artist, .ArtistSort, .Album, .AlbumSort, .AlbumArtist, .AlbumArtistSort, .Title, .Track, .Name,
      .Genre, .Date, .OriginalDate, .Composer, .ComposerSort, .Performer, .Conductor, .Work, .Ensemble,
      .Movement, .MovementNumber, .Location, .Grouping, .Comment, .Disc, .Label, .MusicBrainzArtistId,
      .MusicBrainzReleaseId, .MusicBrainzReleaseArtistId, .MusicBrainzRecordingId, .MusicBrainzTrackId,
      .MusicBrainzWorkId] : List TagV).map TagV.name := rfl

theorem mem_knownTagNames (n : Bytes) : n ∈ Spec.knownTagNames ↔ ∃ v : TagV, v.name = n := by
  rw [knownTagNames_eq, List.mem_map]
  refine ⟨fun ⟨v, _, h⟩ => ⟨v, h⟩, fun ⟨v, h⟩ => ⟨v, ?_, h⟩⟩
  exact (by decide +kernel : ∀ v ∈ TagV.all, v ∈ _) v (C20.TagV.mem_all v)

theorem name_of_tryFrom (k : Bytes) (t : Tag) (h : Tag.tryFrom k = .ok t) : t.name = Spec.canonTag k := by
  unfold Spec.canonTag
  cases hf : Spec.knownTagNames.find? (eqIgnoreCase k) with
  | some n =>
    -- the first matching name is a variant's, and any spelling of it parses to that variant
    obtain ⟨w, rfl⟩ := (mem_knownTagNames n).mp (List.mem_of_find?_eq_some hf)
    rw [C20.C20_parse_known_case_insensitive k w (List.find?_some hf)] at h
    cases h; rfl
  | none =>
    rcases C20.C20_parse_result k t h with ⟨v, _, hv⟩ | ⟨rfl, _⟩
    · have := List.find?_eq_none.mp hf v.name ((mem_knownTagNames _).mpr ⟨v, rfl⟩)
      exact absurd hv this
    · rfl

/-- `C20.tryFrom_ok_of_fieldName` for a key of a well-formed line -/
theorem tryFrom_ok_of_wfKey (k : Bytes) (h : Spec.wfFieldName k = true) : ∃ t, Tag.tryFrom k = .ok t := by
  simp only [Spec.wfFieldName, Bool.and_eq_true, Bool.not_eq_true', List.isEmpty_eq_false_iff] at h
  exact C20.tryFrom_ok_of_fieldName k h

theorem lastOf_snoc (K : Bytes) (pre : List (Bytes × Bytes)) (k v : Bytes) :
    Spec.lastOf K (pre ++ [(k, v)]) = if k = K then some v else Spec.lastOf K pre := by
  simp only [Spec.lastOf, List.filter_append]
  by_cases h : k = K <;> simp [h]

theorem firstOf_snoc (K : Bytes) (pre : List (Bytes × Bytes)) (k v : Bytes) :
    Spec.firstOf K (pre ++ [(k, v)]) =
      match Spec.firstOf K pre with
      | some x => some x
      | none => if k = K then some v else none := by
  simp only [Spec.firstOf, List.filter_append]
  cases hf : pre.filter (·.1 == K) with
  | nil => by_cases h : k = K <;> simp [h]
  | cons e es => simp

theorem mem_of_mem_filter_key {K : Bytes} {l : List (Bytes × Bytes)} {e : Bytes × Bytes}
    (h : e ∈ l.filter (·.1 == K)) : (K, e.2) ∈ l := by
  obtain ⟨hm, hk⟩ := List.mem_filter.mp h
  rw [← beq_iff_eq.mp hk]
  exact hm

theorem lastOf_mem (K : Bytes) (l : List (Bytes × Bytes)) (x : Bytes) (h : Spec.lastOf K l = some x) :
    (K, x) ∈ l := by
  obtain ⟨e, he, rfl⟩ := Option.map_eq_some_iff.mp h
  exact mem_of_mem_filter_key (List.mem_of_getLast? he)

theorem firstOf_mem (K : Bytes) (l : List (Bytes × Bytes)) (x : Bytes) (h : Spec.firstOf K l = some x) :
    (K, x) ∈ l := by
  obtain ⟨e, he, rfl⟩ := Option.map_eq_some_iff.mp h
  exact mem_of_mem_filter_key (List.mem_of_head? he)

theorem filter_key_nil {K : Bytes} {l : List (Bytes × Bytes)} (h : ∀ e ∈ l, e.1 ≠ K) :
    l.filter (·.1 == K) = [] := by
  simpa only [List.filter_eq_nil_iff, beq_iff_eq] using h

theorem durText_snoc (pre : List (Bytes × Bytes)) (k v : Bytes) :
    Spec.durText (pre ++ [(k, v)]) =
      if k = str "duration" then some v
      else if k = str "Time" then (Spec.durText pre).or (some v)
      else Spec.durText pre := by
  simp only [Spec.durText, lastOf_snoc, firstOf_snoc]
  by_cases h : k = str "duration"
  · simp [h]
  · simp only [h, if_false]
    by_cases h2 : k = str "Time"
    · cases Spec.lastOf (str "duration") pre <;> cases Spec.firstOf (str "Time") pre <;> simp [h2]
    · cases Spec.lastOf (str "duration") pre <;> cases Spec.firstOf (str "Time") pre <;> simp [h2]

theorem durText_wf (ts : Bytes → Bool) (pre : List (Bytes × Bytes)) (x : Bytes)
    (hpre : pre.all (Spec.wfLine ts) = true) (h : Spec.durText pre = some x) :
    (Spec.seconds x).isSome = true := by
  have key : ∀ K y, K = str "duration" ∨ K = str "Time" → (K, y) ∈ pre → (Spec.seconds y).isSome = true := by
    intro K y hK hm
    have := List.all_eq_true.mp hpre _ hm
    simp only [Spec.wfLine, hK, if_true, Bool.and_eq_true] at this
    exact this.2
  unfold Spec.durText at h
  cases hl : Spec.lastOf (str "duration") pre with
  | some y =>
    rw [hl] at h
    exact Option.some.inj h ▸ key _ y (.inl rfl) (lastOf_mem _ _ _ hl)
  | none =>
    rw [hl] at h
    exact key _ x (.inr rfl) (firstOf_mem _ _ _ h)

theorem durText_none (pre : List (Bytes × Bytes))
    (h : ∀ e ∈ pre, e.1 ≠ str "duration" ∧ e.1 ≠ str "Time") : Spec.durText pre = none := by
  simp [Spec.durText, Spec.lastOf, Spec.firstOf, filter_key_nil fun e he => (h e he).1,
    filter_key_nil fun e he => (h e he).2]

theorem seconds_eq (v : Bytes) : Spec.seconds v = parseDuration v := rfl

theorem parseUnsigned_of_decimalL (max : Nat) (v : Bytes) (h : (Spec.decimalL v).any (· ≤ max) = true) :
    ∃ n, Spec.decimalL v = some n ∧ parseUnsigned max v = some n := by
  unfold Spec.decimalL at h ⊢
  split at h
  · rename_i hc
    rw [if_pos hc]
    simp only [Bool.and_eq_true, Bool.not_eq_true', List.isEmpty_eq_false_iff] at hc
    exact ⟨_, rfl, parseUnsigned_digits max v hc.1 hc.2 (by simpa using h)⟩
  · simp at h

theorem splitOnce_eq (c : UInt8) (v : Bytes) :
    splitOnceS c v =
      match v.dropWhile (· != c) with
      | [] => none
      | _ :: b => some (v.takeWhile (· != c), b) := by
  induction v with
  | nil => simp [splitOnceS]
  | cons x xs ih =>
    simp only [splitOnceS]
    by_cases h : x = c
    · subst h; simp [List.dropWhile, List.takeWhile]
    · have hb : (x != c) = true := by simpa using h
      simp only [h, if_false, List.dropWhile, List.takeWhile, hb, ih]
      cases List.dropWhile (fun x => x != c) xs <;> simp

theorem rangeOf_eq (v : Bytes) :
    Spec.rangeOf v = (parseRange v).map (fun r => (r.start, r.stop)) := by
  unfold Spec.rangeOf parseRange
  rw [splitOnce_eq]
  simp only [seconds_eq]
  cases hd : v.dropWhile (· != DASH) with
  | nil => simp
  | cons x b =>
    simp only
    cases ha : parseDuration (v.takeWhile (· != DASH)) with
    | none => simp
    | some f =>
      simp only
      by_cases hb : b = []
      · simp [hb]
      · simp only [hb, if_false, List.isEmpty_iff]
        cases parseDuration b <;> simp

end Mpd.SongLemmas

/-! `SongBuilder::field` by the state of the builder and the class of the key; the three
`from_frame_*` loops as one `run`. Nothing here compares with the specification. -/
namespace Mpd.C14
open Mpd.Typed

/-- the record `into_song` builds -/
def builtSong (b : Builder) : SongInQueue :=
  { position := b.position, id := b.id, range := b.range, priority := b.priority,
    song := { url := b.url, duration := b.duration, tags := b.tags, format := b.format,
              lastModified := b.lastModified } }

theorem intoSong_ok (b : Builder) (h : b.url ≠ []) : b.intoSong = .ok (builtSong b) := by
  have he : b.url.isEmpty = false := by simpa using h
  simp only [Builder.intoSong, he, Bool.false_eq_true, if_false, builtSong]

theorem field_idle (ts : Bytes → Bool) (b : Builder) (k v : Bytes) (h : b.url = []) :
    b.field ts k v = (b.handleStartField k v).map (·, none) := by
  simp only [Builder.field, h, List.isEmpty_nil, if_true]
  cases b.handleStartField k v <;> rfl

theorem field_busy (ts : Bytes → Bool) (b : Builder) (k v : Bytes) (h : b.url ≠ []) :
    b.field ts k v = b.handleSongField ts k v := by
  simp [Builder.field, h]

theorem isStartField_iff (k : Bytes) : isStartField k = true ↔ k = kFile ∨ k = kDirectory ∨ k = kPlaylist := by
  simp [isStartField, or_assoc]

theorem entryKeys_contains (k : Bytes) : Spec.entryKeys.contains k = isStartField k := by
  simp only [Spec.entryKeys, List.contains_cons, List.contains_nil, Bool.or_false, isStartField, Bool.or_assoc]
  rfl

theorem isAttrKey_iff (k : Bytes) : Spec.isAttrKey k = true ↔ k = kDuration ∨ k = kTime ∨ k = kRange ∨
    k = kFormat ∨ k = kLastModified ∨ k = kPrio ∨ k = kPos ∨ k = kId := by
  simp only [Spec.isAttrKey, Spec.attrKeys, List.contains_iff_mem, List.mem_cons, List.not_mem_nil, or_false]
  rfl

theorem handleStartField_entry (b : Builder) (k v : Bytes) (hk : isStartField k = true) :
    b.handleStartField k v = .ok (if k = kFile then { b with url := v } else b) := by
  rw [isStartField_iff] at hk
  unfold Builder.handleStartField
  by_cases hf : k = kFile
  · simp [hf]
  · have : k = kDirectory ∨ k = kPlaylist ∨ k = kLastModified := by
      rcases hk with h | h | h
      · exact absurd h hf
      · exact Or.inl h
      · exact Or.inr (Or.inl h)
    simp [hf, this]

theorem field_entry (ts : Bytes → Bool) (b : Builder) (k v : Bytes) (h : b.url ≠ [])
    (hk : isStartField k = true) :
    b.field ts k v = .ok ((if k = kFile then { url := v } else {}), some (builtSong b)) := by
  rw [field_busy ts b k v h, Builder.handleSongField, if_pos hk, intoSong_ok b h,
    handleStartField_entry {} k v hk]

/-- what each outcome of a line that starts no entry means: an attribute line sets its attribute and
leaves the tags alone, or is refused; any other line is a tag line, and only there can the builder panic -/
theorem handleSongField_line (ts : Bytes → Bool) (b : Builder) (k v : Bytes) (hs : isStartField k = false) :
    match b.handleSongField ts k v with
    | .ok (b', o) => o = none ∧
        if Spec.isAttrKey k then b'.tags = b.tags
        else ∃ t, Tag.tryFrom k = .ok t ∧ b'.tags = b.tags.push t v
    | .terr => Spec.isAttrKey k = true
    | .panic => Spec.isAttrKey k = false ∧ ∀ t, Tag.tryFrom k ≠ .ok t := by
  have ha := isAttrKey_iff k
  simp only [Builder.handleSongField, hs, Bool.false_eq_true, if_false]
  by_cases hattr : Spec.isAttrKey k = true
  · -- an attribute key: whichever branch is taken sets an attribute or refuses the value
    by_cases h1 : k = kDuration
    · rw [if_pos h1]
      cases parseDuration v <;> simp [hattr]
    rw [if_neg h1]
    by_cases h2 : k = kTime
    · rw [if_pos h2]
      cases b.duration <;> cases parseDuration v <;> simp [hattr]
    rw [if_neg h2]
    by_cases h3 : k = kRange
    · rw [if_pos h3]
      cases parseRange v <;> simp [hattr]
    rw [if_neg h3]
    by_cases h4 : k = kFormat
    · rw [if_pos h4]
      simp [hattr]
    rw [if_neg h4]
    by_cases h5 : k = kLastModified
    · rw [if_pos h5]
      cases ts v <;> simp [hattr]
    rw [if_neg h5]
    by_cases h6 : k = kPrio
    · rw [if_pos h6]
      cases parseU8 v <;> simp [hattr]
    rw [if_neg h6]
    by_cases h7 : k = kPos
    · rw [if_pos h7]
      cases parseUsize v <;> simp [hattr]
    rw [if_neg h7]
    by_cases h8 : k = kId
    · rw [if_pos h8]
      cases parseU64 v <;> simp [hattr]
    rw [if_neg h8]
    exact absurd (ha.mp hattr) (by simp [h1, h2, h3, h4, h5, h6, h7, h8])
  · have hn := mt ha.mpr hattr
    simp only [not_or] at hn
    obtain ⟨h1, h2, h3, h4, h5, h6, h7, h8⟩ := hn
    rw [if_neg h1, if_neg h2, if_neg h3, if_neg h4, if_neg h5, if_neg h6, if_neg h7, if_neg h8]
    cases Tag.tryFrom k <;> simp [hattr]

/-- the loop the three `from_frame_*` decoders share: thread the builder through the fields and collect the
songs `field` completes; what is in progress at the end is `pending` of the builder returned -/
def run (ts : Bytes → Bool) : Builder → List (Bytes × Bytes) → Outcome (Builder × List SongInQueue)
  | b, [] => .ok (b, [])
  | b, (k, v) :: rest =>
    match b.field ts k v with
    | .ok (b', o) =>
      match run ts b' rest with
      | .ok (bf, songs) => .ok (bf, o.toList ++ songs)
      | .terr => .terr
      | .panic => .panic
    | .terr => .terr
    | .panic => .panic

/-- the song in progress, if any: what `finish` returns (`finish_eq`) -/
def pending (b : Builder) : Option SongInQueue := if b.url = [] then none else some (builtSong b)

/-- `finish` never fails: the `assert!` of `into_song` is behind the same test of the URL -/
theorem finish_eq (b : Builder) : b.finish = .ok (pending b) := by
  unfold Builder.finish pending
  by_cases h : b.url = []
  · simp [h]
  · simp [h, intoSong_ok b h]

theorem multiLoop_eq_run {α : Type} (ts : Bytes → Bool) (proj : SongInQueue → α) (b : Builder)
    (out : List α) (fs : List (Bytes × Bytes)) :
    multiLoop ts proj b out fs =
      (run ts b fs).map fun r => out ++ (r.2 ++ (pending r.1).toList).map proj := by
  -- cases of `run.induct`: no field left (1); this field is accepted and the rest gives a value (2), a typed
  -- error (3), a panic (4); this field gives a typed error (5), a panic (6)
  fun_induction run ts b fs generalizing out with
  | case1 b =>
    simp only [multiLoop, finish_eq]
    cases h : pending b <;> simp [h]
  | case2 b k v rest b1 o hf bf ss hr ih | case3 b k v rest b1 o hf hr ih | case4 b k v rest b1 o hf hr ih =>
    cases o <;> simp [multiLoop, hf, ih, hr]
  | case5 b k v rest hf | case6 b k v rest hf => simp [multiLoop, hf]

theorem singleLoop_eq_run (ts : Bytes → Bool) (b : Builder) (fs : List (Bytes × Bytes)) :
    singleLoop ts b fs = (run ts b fs).map fun r => pending r.1 := by
  -- cases numbered as in `multiLoop_eq_run`
  fun_induction run ts b fs with
  | case1 b => exact finish_eq b
  | case2 b k v rest b1 o hf bf ss hr ih | case3 b k v rest b1 o hf hr ih | case4 b k v rest b1 o hf hr ih =>
    simp [singleLoop, hf, ih, hr]
  | case5 b k v rest hf | case6 b k v rest hf => simp [singleLoop, hf]

theorem decoders_eq_run (ts : Bytes → Bool) (f : AFrame) :
    SongInQueue.fromFrameMulti ts f = (run ts {} f.fields).map (fun r => r.2 ++ (pending r.1).toList) ∧
    Song.fromFrameMulti ts f =
      (run ts {} f.fields).map (fun r => (r.2 ++ (pending r.1).toList).map (·.song)) ∧
    SongInQueue.fromFrameSingle ts f = (run ts {} f.fields).map (fun r => pending r.1) := by
  simp [SongInQueue.fromFrameMulti, Song.fromFrameMulti, SongInQueue.fromFrameSingle, multiLoop_eq_run,
    singleLoop_eq_run]

theorem run_append (ts : Bytes → Bool) (b : Builder) (fs1 fs2 : List (Bytes × Bytes)) :
    run ts b (fs1 ++ fs2) =
      (run ts b fs1).bind fun r1 => (run ts r1.1 fs2).map fun r2 => (r2.1, r1.2 ++ r2.2) := by
  -- cases numbered as in `multiLoop_eq_run`
  fun_induction run ts b fs1 with
  | case1 b => cases hr : run ts b fs2 <;> simp [hr]
  | case2 b k v rest b1 o hf bf ss hr ih =>
    simp only [List.cons_append, run, hf, ih, hr, Outcome.bind_ok]
    cases hr2 : run ts bf fs2 <;> simp
  | case3 b k v rest b1 o hf hr ih | case4 b k v rest b1 o hf hr ih => simp [run, hf, ih, hr]
  | case5 b k v rest hf | case6 b k v rest hf => simp [run, hf]

end Mpd.C14
