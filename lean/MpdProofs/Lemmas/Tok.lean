import Mpd.Command
import Mpd.Filter
import MpdSpec.Tokenizer
import MpdProofs.Lemmas.Bytes
import MpdProofs.Lemmas.List
/-!
# The command encoder (`Mpd.Cmd`) against MPD's tokenizer (`Spec.Tok`)

What each side does on the forms of input the other produces: one parameter (`Reads`; a client writes it
between quotes or as an unquoted run, `escape_argument` picks between the two), the command name (`NameOk`),
`validate_argument` (`Clean`), the request line `n ++ args rs`, the stream of lines.
-/
namespace Mpd.TokL
open Mpd.Cmd Spec.Tok

theorem ws_SPACE : isWs SPACE = true := by decide

theorem ws_QUOTE : isWs QUOTE = false := by decide

theorem ws_BSLASH : isWs BSLASH = false := by decide

theorem le_space_eq_isWs (b : UInt8) : decide (b ≤ SPACE) = isWs b := rfl

theorem shouldEscape_not_ws : ∀ b : UInt8, shouldEscape b = true → isWs b = false := by
  intro b h
  simp only [shouldEscape, Bool.or_eq_true, beq_iff_eq] at h
  rcases h with (rfl | rfl) | rfl <;> rfl

theorem validUnquoted_iff (b : UInt8) :
    validUnquoted b = true ↔ isWs b = false ∧ b ≠ QUOTE ∧ b ≠ SQUOTE := by
  simp [validUnquoted, and_assoc]

theorem shouldEscape_false_iff (b : UInt8) :
    shouldEscape b = false ↔ b ≠ BSLASH ∧ b ≠ QUOTE ∧ b ≠ SQUOTE := by
  simp [shouldEscape, and_assoc]

/-- letters and `_` lie above 0x20 and belong to MPD's word alphabet -/
theorem cmdChar_facts (b : UInt8) (h : isValidCommandChar b = true) :
    isWs b = false ∧ validWordChar b = true := by
  simp only [isValidCommandChar, Bool.or_eq_true] at h
  refine ⟨?_, by rcases h with h | h <;> simp [validWordChar, h]⟩
  simp only [isAlpha, isUpper, isLower, Bool.or_eq_true, Bool.and_eq_true, decide_eq_true_eq, beq_iff_eq,
    UInt8.le_iff_toNat_le, UInt8.reduceToNat] at h
  simp only [isWs, decide_eq_false_iff_not, UInt8.le_iff_toNat_le, UInt8.reduceToNat]
  rcases h with h | rfl
  · omega
  · decide

theorem alpha_cmdChar : ∀ b : UInt8, isAlpha b = true → isValidCommandChar b = true := by
  intro b h; simp [isValidCommandChar, h]

theorem stripLeft_head {b : UInt8} {t : Bytes} (h : isWs b = false) : stripLeft (b :: t) = b :: t := by
  simp [stripLeft, h]

theorem stripLeft_ws {b : UInt8} {t : Bytes} (h : isWs b = true) : stripLeft (b :: t) = stripLeft t := by
  simp [stripLeft, h]

theorem stripLeft_append (x y : Bytes) :
    stripLeft (x ++ y) = if x.all isWs then stripLeft y else stripLeft x ++ y := by
  induction x with
  | nil => simp
  | cons b bs ih =>
    by_cases hb : isWs b = true
    · simp [stripLeft, hb, ih]
    · simp [stripLeft, hb]

theorem stripRight_append (l r : Bytes) :
    stripRight (l ++ r) = if r.all isWs then stripRight l else l ++ stripRight r := by
  unfold stripRight
  rw [List.reverse_append, stripLeft_append]
  simp only [List.all_reverse]
  split <;> simp

theorem stripRight_nil : stripRight [] = [] := rfl

theorem mem_stripLeft {l : Bytes} {x : UInt8} (h : x ∈ stripLeft l) : x ∈ l := by
  induction l with
  | nil => exact h
  | cons b bs ih =>
    rw [stripLeft] at h
    split at h
    · exact List.mem_cons_of_mem _ (ih h)
    · exact h

theorem mem_stripRight {l : Bytes} {x : UInt8} (h : x ∈ stripRight l) : x ∈ l :=
  List.mem_reverse.mp (mem_stripLeft (List.mem_reverse.mp h))

theorem cstr_of_no_nul (l : Bytes) (h : (0 : UInt8) ∉ l) : cstr l = l := by
  induction l with
  | nil => rfl
  | cons b bs ih =>
    simp only [List.mem_cons, not_or] at h
    have hb : (b == 0) = false := by simpa using fun e => h.1 e.symm
    simp [cstr, hb, ih h.2]

/-- `l` ends in a byte that is no blank, so `StripRight` leaves it alone -/
def EndsNW (l : Bytes) : Prop := ∃ init b, l = init ++ [b] ∧ isWs b = false

theorem EndsNW.append_left {r : Bytes} (l : Bytes) (h : EndsNW r) : EndsNW (l ++ r) := by
  obtain ⟨i, b, rfl, hb⟩ := h
  exact ⟨l ++ i, b, by simp, hb⟩

theorem EndsNW.stripRight {l : Bytes} (h : EndsNW l) : stripRight l = l := by
  obtain ⟨i, b, rfl, hb⟩ := h
  rw [stripRight_append]
  simp [hb, Spec.Tok.stripRight, stripLeft]

theorem EndsNW.of_noWs {l : Bytes} (hne : l ≠ []) (h : ∀ b ∈ l, isWs b = false) : EndsNW l :=
  ⟨l.dropLast, l.getLast hne, (List.dropLast_concat_getLast hne).symm, h _ (List.getLast_mem hne)⟩

/-- what may follow a word or a parameter: the end of the line, or a blank -/
def WsOrEnd (rest : Bytes) : Prop := rest = [] ∨ ∃ c t, rest = c :: t ∧ isWs c = true

theorem stripRight_blank {c : UInt8} (hc : isWs c = true) (t : Bytes) : WsOrEnd (stripRight (c :: t)) := by
  have h := stripRight_append [c] t
  rw [List.singleton_append] at h
  rw [h]
  split
  · exact .inl (by simp [stripRight, stripLeft, hc])
  · exact .inr ⟨c, _, rfl, hc⟩

/-- the rendered bytes pass `validate_argument` -/
def Clean (r : Bytes) : Prop := LF ∉ r ∧ (0 : UInt8) ∉ r

instance (r : Bytes) : Decidable (Clean r) := by unfold Clean; infer_instance

/-- LF and NUL are blanks -/
theorem Clean.of_noWs {r : Bytes} (h : ∀ b ∈ r, isWs b = false) : Clean r :=
  ⟨fun hm => absurd (h _ hm) (by decide), fun hm => absurd (h _ hm) (by decide)⟩

/-- `r` can stand as one argument on a request line -/
structure Piece (r : Bytes) : Prop where
  head : ∃ b t, r = b :: t ∧ isWs b = false
  ends : EndsNW r
  nul : (0 : UInt8) ∉ r

theorem escBody_eq_flatMap (a : Bytes) :
    escBody a = a.flatMap fun b => if shouldEscape b then [BSLASH, b] else [b] :=
  eq_flatMap rfl (fun b bs => by rw [escBody]; split <;> rfl) a

theorem escBody_plain (a : Bytes) (h : a.any shouldEscape = false) : escBody a = a := by
  induction a with
  | nil => rfl
  | cons b bs ih =>
    simp only [List.any_cons, Bool.or_eq_false_iff] at h
    simp [escBody, h.1, ih h.2]

theorem mem_escaped {p : UInt8 → Bool} {a : Bytes} {x : UInt8}
    (h : x ∈ a.flatMap fun b => if p b then [BSLASH, b] else [b]) : x ∈ a ∨ x = BSLASH := by
  obtain ⟨b, hb, hx⟩ := List.mem_flatMap.mp h
  split at hx
  · simp only [List.mem_cons, List.not_mem_nil, or_false] at hx
    rcases hx with rfl | rfl
    · exact .inr rfl
    · exact .inl hb
  · exact .inl (List.mem_singleton.mp hx ▸ hb)

theorem mem_escBody {a : Bytes} {x : UInt8} (h : x ∈ escBody a) : x ∈ a ∨ x = BSLASH :=
  mem_escaped (escBody_eq_flatMap a ▸ h)

theorem mem_escaped_of_mem {p : UInt8 → Bool} {a : Bytes} {x : UInt8} (h : x ∈ a) :
    x ∈ a.flatMap fun b => if p b then [BSLASH, b] else [b] :=
  List.mem_flatMap.mpr ⟨x, h, by split <;> simp⟩

theorem mem_escBody_of_mem {a : Bytes} {x : UInt8} (h : x ∈ a) : x ∈ escBody a :=
  escBody_eq_flatMap a ▸ mem_escaped_of_mem h

theorem escBody_head {a : Bytes} (h : a ≠ []) : ∃ b t, escBody a = b :: t ∧ b ≠ QUOTE := by
  cases a with
  | nil => exact absurd rfl h
  | cons x xs =>
    rw [escBody]
    split
    · exact ⟨_, _, rfl, by decide⟩
    · next hx => exact ⟨_, _, rfl, ((shouldEscape_false_iff x).mp (by simpa using hx)).2.1⟩

theorem escapeArgument_eq (a : Bytes) :
    escapeArgument a = if needsQuotes a then QUOTE :: escBody a ++ [QUOTE] else escBody a := by
  unfold escapeArgument
  by_cases hq : needsQuotes a = true
  · simp [hq]
  · by_cases he : a.any shouldEscape = true
    · simp [hq, he]
    · have he' : a.any shouldEscape = false := by simpa using he
      simp [hq, he', escBody_plain a he']

theorem needsQuotes_false_iff (a : Bytes) :
    needsQuotes a = false ↔ a ≠ [] ∧ ∀ b ∈ a, isWs b = false := by
  rw [needsQuotes, Bool.or_eq_false_iff, List.isEmpty_eq_false_iff, List.any_eq_false]
  simp only [le_space_eq_isWs, Bool.not_eq_true]

theorem stringBody_quote_more (c : UInt8) (cs : Bytes) :
    stringBody (QUOTE :: c :: cs) = if isWs c then some ([], stripLeft (c :: cs)) else none := by
  rw [stringBody.eq_def]; simp

theorem stringBody_quote {rest : Bytes} (hr : WsOrEnd rest) :
    stringBody (QUOTE :: rest) = some ([], stripLeft rest) := by
  rcases hr with rfl | ⟨c, t, rfl, hc⟩
  · rw [stringBody.eq_def]; simp [stripLeft]
  · rw [stringBody_quote_more, if_pos hc]

theorem stringBody_bslash (c : UInt8) (r : Bytes) :
    stringBody (BSLASH :: c :: r) = (stringBody r).map fun (v, r') => (c :: v, r') := by
  rw [stringBody.eq_def]; simp [BSLASH, QUOTE]

/-- inside `"…"` MPD undoes any escaping that puts a backslash before at least `\` and `"` -/
theorem stringBody_escaped (p : UInt8 → Bool) (hb : p BSLASH = true) (hq : p QUOTE = true) (a k : Bytes) :
    stringBody (a.flatMap (fun b => if p b then [BSLASH, b] else [b]) ++ k) =
      (stringBody k).map fun q => (a ++ q.1, q.2) := by
  induction a with
  | nil => cases h : stringBody k <;> simp [h]
  | cons x xs ih =>
    rw [List.flatMap_cons, List.append_assoc]
    by_cases hx : p x = true
    · simp only [hx, if_true, List.cons_append, List.nil_append, stringBody_bslash, ih]
      cases stringBody k <;> simp
    · have h1 : x ≠ BSLASH := fun e => hx (e ▸ hb)
      have h2 : x ≠ QUOTE := fun e => hx (e ▸ hq)
      rw [if_neg hx, List.singleton_append, stringBody.eq_def]
      simp only [beq_iff_eq, h1, h2, if_false, ih]
      cases stringBody k <;> simp

/-- a bare quote closes the string: if anything but a blank ends the line, `NextString` stops before the end
(known finding K2) -/
theorem stringBody_early (p : UInt8 → Bool) (hb : p BSLASH = true) (hq : p QUOTE = true) (a B : Bytes)
    {c : UInt8} (hc : isWs c = false) {v rest : Bytes}
    (hs : stringBody (a.flatMap (fun b => if p b then [BSLASH, b] else [b]) ++ (QUOTE :: B ++ [c])) =
      some (v, rest)) : rest ≠ [] := by
  rw [stringBody_escaped p hb hq, List.cons_append] at hs
  cases hB : B ++ [c] with
  | nil => simp at hB
  | cons d ds =>
    rw [hB, stringBody_quote_more] at hs
    split at hs
    · simp only [Option.map_some, Option.some.injEq, Prod.mk.injEq] at hs
      rw [← hs.2, ← hB, stripLeft_append]
      split <;> simp [stripLeft, hc]
    · simp at hs

theorem unquotedBody_run (w rest : Bytes) (hw : ∀ b ∈ w, isWs b = false) (hr : WsOrEnd rest) :
    unquotedBody (w ++ rest) = if w.all validUnquoted then some (w, stripLeft rest) else none := by
  induction w with
  | nil =>
    rcases hr with rfl | ⟨c, t, rfl, hc⟩
    · simp [unquotedBody, stripLeft]
    · simp [unquotedBody, hc, stripLeft]
  | cons b bs ih =>
    have hb : isWs b = false := hw b (by simp)
    have ih' := ih fun x hx => hw x (by simp [hx])
    simp only [List.cons_append, unquotedBody, hb, Bool.false_eq_true, if_false, List.all_cons]
    by_cases hv : validUnquoted b = true
    · simp only [hv, if_true, ih', Bool.true_and]
      split <;> simp
    · simp [hv]

theorem Piece.quoted {e : Bytes} (h0 : (0 : UInt8) ∉ e) : Piece (QUOTE :: e ++ [QUOTE]) where
  head := ⟨QUOTE, _, rfl, ws_QUOTE⟩
  ends := ⟨QUOTE :: e, QUOTE, rfl, ws_QUOTE⟩
  nul := by simpa using ⟨by decide, h0, by decide⟩

/-- `r` is one parameter: a `Piece` that `NextParam` reads as `o` (`none`: rejects) whatever follows -/
structure Reads (r : Bytes) (o : Option Bytes) : Prop extends Piece r where
  read : ∀ rest, WsOrEnd rest → nextParam (r ++ rest) = o.map fun a => (a, stripLeft rest)

theorem Reads.quoted (p : UInt8 → Bool) (hb : p BSLASH = true) (hq : p QUOTE = true) {a : Bytes}
    (h0 : (0 : UInt8) ∉ a) :
    Reads (QUOTE :: a.flatMap (fun b => if p b then [BSLASH, b] else [b]) ++ [QUOTE]) (some a) where
  toPiece := Piece.quoted fun h => (mem_escaped h).elim h0 nofun
  read := by
    intro rest hr
    simp only [List.cons_append, List.append_assoc, List.nil_append, nextParam, beq_self_eq_true, if_true,
      stringBody_escaped p hb hq]
    simp [stringBody_quote hr]

theorem Reads.run {b : UInt8} {t : Bytes} (hw : ∀ x ∈ b :: t, isWs x = false) (hq : b ≠ QUOTE) :
    Reads (b :: t) (if (b :: t).all validUnquoted then some (b :: t) else none) where
  head := ⟨b, t, rfl, hw b (by simp)⟩
  ends := EndsNW.of_noWs (by simp) hw
  nul := (Clean.of_noWs hw).2
  read := by
    intro rest hr
    have hb : (b == QUOTE) = false := by simpa using hq
    have h := unquotedBody_run (b :: t) rest hw hr
    simp only [List.cons_append, unquotedBody, hw b (by simp), Bool.false_eq_true, if_false] at h
    simp only [List.cons_append, nextParam, hb, Bool.false_eq_true, if_false, nextUnquoted, h]
    split <;> rfl

/-- what MPD's `NextParam` makes of the rendering of the string argument `a`: a quoted argument is read back
exactly; an unquoted one is taken as it stands, backslashes included, if it has no quote -/
def readBack (a : Bytes) : Option Bytes :=
  if needsQuotes a then some a
  else if (escBody a).all validUnquoted then some (escBody a) else none

theorem reads_escapeArgument {a : Bytes} (h0 : (0 : UInt8) ∉ a) : Reads (escapeArgument a) (readBack a) := by
  rw [escapeArgument_eq, readBack]
  by_cases hq : needsQuotes a = true
  · simp only [hq, if_true, escBody_eq_flatMap]
    exact Reads.quoted shouldEscape (by decide) (by decide) h0
  · have hq : needsQuotes a = false := by simpa using hq
    obtain ⟨hne, hws⟩ := (needsQuotes_false_iff a).mp hq
    simp only [hq, Bool.false_eq_true, if_false]
    obtain ⟨b, t, he, hb⟩ := escBody_head hne
    rw [he]
    refine Reads.run (fun x hx => ?_) hb
    exact (mem_escBody (he ▸ hx)).elim (hws x) fun e => e ▸ ws_BSLASH

/-! the encoder only ever lengthens: where it escapes, the result differs from the argument -/

theorem escBody_length (a : Bytes) : (escBody a).length = a.length + a.countP shouldEscape := by
  induction a with
  | nil => rfl
  | cons b bs ih =>
    rw [escBody, List.countP_cons]
    split
    · simp [*]; omega
    · simp [*]; omega

theorem escBody_ne_of_any (a : Bytes) (h : a.any shouldEscape = true) : escBody a ≠ a := by
  intro e
  have hl := escBody_length a
  have hp := List.countP_pos_iff.mpr (List.any_eq_true.mp h)
  rw [e] at hl
  omega

/-- in `K1` the encoder inserted backslashes that `NextUnquoted` takes literally -/
theorem readBack_eq_self_iff (a : Bytes) : readBack a = some a ↔ isK1 a = false := by
  unfold readBack isK1
  by_cases hq : needsQuotes a = true
  · simp [hq]
  · have hq : needsQuotes a = false := by simpa using hq
    obtain ⟨_, hws⟩ := (needsQuotes_false_iff a).mp hq
    by_cases he : a.any shouldEscape = true
    · have := escBody_ne_of_any a he
      simp only [hq, he, Bool.false_eq_true, if_false]
      split <;> simp [this]
    · have he' : a.any shouldEscape = false := by simpa using he
      have hall : a.all validUnquoted = true := List.all_eq_true.mpr fun b hb => by
        obtain ⟨_, h2, h3⟩ := (shouldEscape_false_iff b).mp (by simpa using List.any_eq_false.mp he' b hb)
        exact (validUnquoted_iff b).mpr ⟨hws b hb, h2, h3⟩
      simp [hq, he', escBody_plain a he', hall]

/-- a name the builder accepts is one word for MPD -/
structure NameOk (n : Bytes) : Prop where
  ne : n ≠ []
  first : ∃ b t, n = b :: t ∧ isAlpha b = true
  chars : n.all isValidCommandChar = true
  notList : startsWith n (str "command_list") = false

theorem firstBadNameChar_succ (i : Nat) (l : Bytes) :
    firstBadNameChar (i + 1) l = none ↔ l.all isValidCommandChar = true := by
  induction l generalizing i with
  | nil => simp [firstBadNameChar]
  | cons b bs ih =>
    by_cases hb : isValidCommandChar b = true
    · simp [firstBadNameChar, hb, ih]
    · simp [firstBadNameChar, hb]

theorem firstBadNameChar_zero (l : Bytes) :
    firstBadNameChar 0 l = none ↔
      l.all isValidCommandChar = true ∧ (l = [] ∨ ∃ b t, l = b :: t ∧ isAlpha b = true) := by
  cases l with
  | nil => simp [firstBadNameChar]
  | cons b bs =>
    by_cases hb : isValidCommandChar b = true
    · by_cases ha : isAlpha b = true
      · simp [firstBadNameChar, hb, ha, firstBadNameChar_succ]
      · simp [firstBadNameChar, hb, ha]
    · simp [firstBadNameChar, hb]

/-- `NameOk` as the three tests of `validate_command_part` -/
theorem nameOk_iff (n : Bytes) : NameOk n ↔
    n ≠ [] ∧ firstBadNameChar 0 n = none ∧ startsWith n (str "command_list") = false := by
  rw [firstBadNameChar_zero]
  constructor
  · exact fun h => ⟨h.ne, ⟨h.chars, .inr h.first⟩, h.notList⟩
  · exact fun ⟨hne, ⟨hc, hf⟩, hl⟩ => ⟨hne, hf.resolve_left hne, hc, hl⟩

theorem build_ok_iff (n c : Bytes) : build n = .ok c ↔ c = n ∧ NameOk n := by
  rw [nameOk_iff]
  unfold build validateCommandPart isCommandListCommand
  cases n with
  | nil => simp
  | cons b bs =>
    cases firstBadNameChar 0 (b :: bs) with
    | some i => simp
    | none => cases startsWith (b :: bs) (str "command_list") <;> simp [eq_comm]

theorem wordBody_name (t rest : Bytes) (ht : t.all isValidCommandChar = true) (hr : WsOrEnd rest) :
    wordBody (t ++ rest) = some (t, stripLeft rest) := by
  induction t with
  | nil =>
    rcases hr with rfl | ⟨c, r, rfl, hc⟩
    · simp [wordBody, stripLeft]
    · simp [wordBody, hc, stripLeft]
  | cons b bs ih =>
    simp only [List.all_cons, Bool.and_eq_true] at ht
    obtain ⟨h1, h2⟩ := cmdChar_facts b ht.1
    simp [wordBody, h1, h2, ih ht.2]

theorem nextWord_name {n : Bytes} (hn : NameOk n) (rest : Bytes) (hr : WsOrEnd rest) :
    nextWord (n ++ rest) = some (n, stripLeft rest) := by
  obtain ⟨b, t, rfl, hb⟩ := hn.first
  have hc := hn.chars
  simp only [List.all_cons, Bool.and_eq_true] at hc
  simp [nextWord, validWordFirst, hb, wordBody_name t rest hc.2 hr]

theorem NameOk.noWs {n : Bytes} (hn : NameOk n) : ∀ b ∈ n, isWs b = false := fun b hb =>
  (cmdChar_facts b (List.all_eq_true.mp hn.chars b hb)).1

theorem NameOk.endsNW {n : Bytes} (hn : NameOk n) : EndsNW n := EndsNW.of_noWs hn.ne hn.noWs

theorem NameOk.clean {n : Bytes} (hn : NameOk n) : Clean n := Clean.of_noWs hn.noWs

theorem nextWord_line {n rest : Bytes} (hn : NameOk n) (hr : WsOrEnd rest) (h0 : (0 : UInt8) ∉ rest) :
    ∃ r, nextWord (cstr (stripRight (n ++ rest))) = some (n, r) := by
  have hnul : (0 : UInt8) ∉ stripRight (n ++ rest) := fun hm =>
    (List.mem_append.mp (mem_stripRight hm)).elim hn.clean.2 h0
  have ht : ∃ tail, stripRight (n ++ rest) = n ++ tail ∧ WsOrEnd tail := by
    rw [stripRight_append]
    split
    · exact ⟨[], by rw [hn.endsNW.stripRight, List.append_nil], .inl rfl⟩
    · refine ⟨_, rfl, ?_⟩
      rcases hr with rfl | ⟨c, t, rfl, hc⟩
      · exact .inl rfl
      · exact stripRight_blank hc t
  obtain ⟨tail, ht, hw⟩ := ht
  exact ⟨_, by rw [cstr_of_no_nul _ hnul, ht, nextWord_name hn tail hw]⟩

theorem clean_iff (r : Bytes) : Clean r ↔ ∀ b ∈ r, Filter.isForbidden b = false := by
  simp only [Filter.isForbidden, Bool.or_eq_false_iff, beq_eq_false_iff_ne, ne_eq]
  exact ⟨fun h b hb => ⟨fun e => h.1 (e ▸ hb), fun e => h.2 (e ▸ hb)⟩,
    fun h => ⟨fun hm => (h _ hm).1 rfl, fun hm => (h _ hm).2 rfl⟩⟩

theorem firstForbidden_none_iff (r : Bytes) : firstForbidden r = none ↔ Clean r := by
  rw [clean_iff]
  induction r with
  | nil => simp [firstForbidden]
  | cons b bs ih =>
    rw [firstForbidden, List.forall_mem_cons, ← ih, Filter.isForbidden]
    cases b == LF || b == 0 <;> simp

theorem drop_rendered (c r : Bytes) : (c ++ SPACE :: r).drop (c.length + 1) = r := by
  simp

theorem take_rendered (c r : Bytes) : (c ++ SPACE :: r).take c.length = c := by
  simp

theorem addRendered_clean (c r : Bytes) (h : Clean r) :
    addRendered c r = (.ok (c ++ SPACE :: r), c ++ SPACE :: r) := by
  simp only [addRendered, drop_rendered, validateArgument, (firstForbidden_none_iff r).mpr h]

theorem addRendered_unclean (c r : Bytes) (h : ¬ Clean r) :
    ∃ i, addRendered c r = (.error (.invalidChar i), c) := by
  cases hf : firstForbidden r with
  | none => exact absurd ((firstForbidden_none_iff r).mp hf) h
  | some i => exact ⟨i, by simp only [addRendered, drop_rendered, take_rendered, validateArgument, hf]⟩

theorem Clean.append {x y : Bytes} (hx : Clean x) (hy : Clean y) : Clean (x ++ y) := by
  simp only [Clean, List.mem_append, not_or]
  exact ⟨⟨hx.1, hy.1⟩, hx.2, hy.2⟩

theorem clean_escaped (p : UInt8 → Bool) (a : Bytes) :
    Clean (a.flatMap fun b => if p b then [BSLASH, b] else [b]) ↔ Clean a :=
  ⟨fun h => ⟨fun hm => h.1 (mem_escaped_of_mem hm), fun hm => h.2 (mem_escaped_of_mem hm)⟩,
    fun h => ⟨fun hm => (mem_escaped hm).elim h.1 (by decide), fun hm => (mem_escaped hm).elim h.2 (by decide)⟩⟩

theorem clean_quoted (r : Bytes) : Clean (QUOTE :: r ++ [QUOTE]) ↔ Clean r := by
  have h1 : LF ≠ QUOTE := by decide
  have h2 : (0 : UInt8) ≠ QUOTE := by decide
  simp [Clean, h1, h2]

theorem clean_escBody (a : Bytes) : Clean (escBody a) ↔ Clean a :=
  escBody_eq_flatMap a ▸ clean_escaped shouldEscape a

theorem clean_escapeArgument (a : Bytes) : Clean (escapeArgument a) ↔ Clean a := by
  rw [escapeArgument_eq, ← clean_escBody a]
  split
  · exact clean_quoted _
  · rfl

/-- the bytes `add_argument` appends for the accepted renderings `rs` -/
def args (rs : List Bytes) : Bytes := rs.flatMap fun r => SPACE :: r

@[simp] theorem args_nil : args [] = [] := rfl

@[simp] theorem args_cons (r : Bytes) (rs : List Bytes) : args (r :: rs) = SPACE :: (r ++ args rs) := by
  simp [args]

theorem args_wsOrEnd (rs : List Bytes) : WsOrEnd (args rs) := by
  cases rs with
  | nil => exact .inl rfl
  | cons r rs => exact .inr ⟨SPACE, _, args_cons r rs, ws_SPACE⟩

theorem not_mem_args {x : UInt8} (hx : x ≠ SPACE) {rs : List Bytes} (h : ∀ r ∈ rs, x ∉ r) : x ∉ args rs := by
  intro hm
  obtain ⟨r, hr, hm⟩ := List.mem_flatMap.mp hm
  exact (List.mem_cons.mp hm).elim hx (h r hr)

theorem clean_args (rs : List Bytes) (h : ∀ r ∈ rs, Clean r) : Clean (args rs) :=
  ⟨not_mem_args (by decide) fun r hr => (h r hr).1, not_mem_args (by decide) fun r hr => (h r hr).2⟩

theorem stripLeft_args {rs : List Bytes} (h : ∀ r ∈ rs, Piece r) :
    stripLeft (args rs) = (args rs).tail := by
  cases rs with
  | nil => rfl
  | cons r rs =>
    obtain ⟨b, t, hb, hws⟩ := (h r (by simp)).head
    simp [stripLeft_ws ws_SPACE, hb, stripLeft_head hws]

/-- `StripRight` and the C-string view leave the line alone: it ends in the last byte of the name or of the
last piece, and holds no NUL -/
theorem line_view {n : Bytes} (hn : NameOk n) {rs : List Bytes} (h : ∀ r ∈ rs, Piece r) :
    cstr (stripRight (n ++ args rs)) = n ++ args rs := by
  have hends : EndsNW (n ++ args rs) := by
    rcases List.eq_nil_or_concat rs with rfl | ⟨init, r, rfl⟩
    · simpa using hn.endsNW
    · have : args (init.concat r) = args init ++ SPACE :: r := by simp [args]
      rw [this, ← List.append_assoc]
      exact EndsNW.append_left _ (EndsNW.append_left [SPACE] (h r (by simp)).ends)
  have hnul : (0 : UInt8) ∉ n ++ args rs := fun hm =>
    (List.mem_append.mp hm).elim hn.clean.2 (not_mem_args (by decide) fun r hr => (h r hr).nul)
  rw [hends.stripRight, cstr_of_no_nul _ hnul]

theorem tokenizeLine_pieces {n : Bytes} (hn : NameOk n) {rs : List Bytes} (h : ∀ r ∈ rs, Piece r) :
    tokenizeLine (n ++ args rs) =
      (params ((args rs).tail.length + 1) (args rs).tail).map fun as => (n, as) := by
  unfold tokenizeLine
  simp only [line_view hn h]
  rw [nextWord_name hn _ (args_wsOrEnd _), stripLeft_args h]

theorem params_cons (fuel : Nat) (b : UInt8) (bs : Bytes) :
    params (fuel + 1) (b :: bs) = (nextParam (b :: bs)).bind fun p => (params fuel p.2).map (p.1 :: ·) := by
  rw [params]; cases nextParam (b :: bs) <;> rfl

theorem length_le_args (rs : List Bytes) : rs.length ≤ (args rs).length := by
  induction rs with
  | nil => simp
  | cons r rs ih => simp only [args_cons, List.length_cons, List.length_append]; omega

section line
variable {α : Type} (enc : α → Bytes) (dec : α → Option Bytes)

theorem params_args (xs : List α) (h : ∀ x ∈ xs, Reads (enc x) (dec x)) (fuel : Nat)
    (hf : xs.length ≤ fuel) : params fuel (args (xs.map enc)).tail = xs.mapM dec := by
  induction xs generalizing fuel with
  | nil => simp [params]
  | cons x xs ih =>
    cases fuel with
    | zero => simp at hf
    | succ fuel =>
      have hx := h x (by simp)
      have hxs : ∀ y ∈ xs, Reads (enc y) (dec y) := fun y hy => h y (by simp [hy])
      obtain ⟨b, t, hb, _⟩ := hx.head
      have e : (args ((x :: xs).map enc)).tail = b :: (t ++ args (xs.map enc)) := by simp [hb]
      rw [e, params_cons, ← List.cons_append, ← hb, hx.read _ (args_wsOrEnd _),
        stripLeft_args (List.forall_mem_map.mpr fun y hy => (hxs y hy).toPiece)]
      cases hd : dec x with
      | none => simp [hd]
      | some a =>
        simp only [List.mapM_cons, hd, Option.map_some, Option.bind_some, ih hxs fuel (by simpa using hf)]
        cases xs.mapM dec <;> rfl

/-- the line lemma: a valid name followed by parameters is tokenized into the name and what `NextParam` makes
of each of them -/
theorem tokenizeLine_args {n : Bytes} (hn : NameOk n) (xs : List α)
    (h : ∀ x ∈ xs, Reads (enc x) (dec x)) :
    tokenizeLine (n ++ args (xs.map enc)) = (xs.mapM dec).map fun as => (n, as) := by
  have hfuel : xs.length ≤ (args (xs.map enc)).tail.length + 1 := by
    have := length_le_args (xs.map enc)
    simp only [List.length_map] at this
    simp only [List.length_tail]; omega
  rw [tokenizeLine_pieces hn (List.forall_mem_map.mpr fun x hx => (h x hx).toPiece),
    params_args enc dec xs h _ hfuel]

end line

theorem go_line (l rest acc : Bytes) (h : LF ∉ l) :
    splitLines.go (l ++ LF :: rest) acc = (splitLines.go rest []).map ((acc.reverse ++ l) :: ·) := by
  induction l generalizing acc with
  | nil => simp [splitLines.go]
  | cons b bs ih =>
    simp only [List.mem_cons, not_or] at h
    have hb : (b == LF) = false := by simpa using fun e => h.1 e.symm
    simp [splitLines.go, hb, ih _ h.2]

theorem splitLines_eq_go (l : Bytes) : splitLines l = splitLines.go l [] := by
  cases l <;> simp [splitLines, splitLines.go]

theorem splitLines_lines (ls : List Bytes) (h : ∀ l ∈ ls, LF ∉ l) :
    splitLines (ls.flatMap fun l => l ++ [LF]) = some ls := by
  rw [splitLines_eq_go]
  induction ls with
  | nil => simp [splitLines.go]
  | cons l ls ih =>
    have h1 := h l (by simp)
    have h2 := ih fun x hx => h x (by simp [hx])
    simp only [List.flatMap_cons, List.append_assoc, List.singleton_append]
    rw [go_line l _ [] h1, h2]
    simp

theorem splitLines_one (l : Bytes) (h : LF ∉ l) : splitLines (l ++ [LF]) = some [l] := by
  have := splitLines_lines [l] (by simpa using h)
  simpa using this

/-- `Connection::send` writes the line and a line feed: MPD reads exactly that one request -/
theorem tokenizeStream_sendBytes (l : Bytes) (h : LF ∉ l) :
    tokenizeStream (sendBytes l) = some [tokenizeLine l] := by
  simp [tokenizeStream, sendBytes, splitLines_one l h]

end Mpd.TokL
