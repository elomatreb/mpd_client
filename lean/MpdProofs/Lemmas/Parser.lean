import MpdProofs.Lemmas.ParserInv
/-!
`Stable f`: once `f` has decided on an input (`ok`, `error` or `failure`), appending more bytes does not
change the decision; only `incomplete` may turn into something else. This is what makes re-parsing after
`Incomplete` safe, and it is compositional over the nom combinators. The walk through the productions
is laid out like the grammar (`Mpd/Parser.lean`), one lemma per combinator, and parallels that of `Shrinks` in
`Mpd/ParserProgress.lean`, which has to be in the model library.
-/
namespace Mpd.Parser

def Stable {α} (f : P α) : Prop :=
  ∀ p q, (∀ v r, f p = .ok v r → f (p ++ q) = .ok v (r ++ q)) ∧
         (f p = .error → f (p ++ q) = .error) ∧ (f p = .failure → f (p ++ q) = .failure)

/-- a proper prefix of an input a stable parser accepts completely is `incomplete` -/
theorem prefix_incomplete {α} (f : P α) (hs : Stable f) (p q : Bytes) (v : α) (r : Bytes)
    (hfull : f (p ++ q) = .ok v r) (hlen : r.length < q.length) : f p = .incomplete := by
  obtain ⟨s1, s2, s3⟩ := hs p q
  cases h : f p with
  | ok v' r' =>
    have := s1 v' r' h
    rw [hfull] at this
    simp only [Res.ok.injEq] at this
    have := congrArg List.length this.2
    simp at this
    omega
  | incomplete => rfl
  | error => rw [s2 h] at hfull; simp at hfull
  | failure => rw [s3 h] at hfull; simp at hfull

theorem tag_stable (t : Bytes) : Stable (tag t) := by
  intro p q
  induction t generalizing p with
  | nil => simp [tag]
  | cons t ts ih =>
    cases p with
    | nil => simp [tag]
    | cons b bs =>
      simp only [tag, List.cons_append]
      split
      · exact ih bs
      · simp

theorem char_stable (c : UInt8) : Stable (char c) := char_eq_tag c ▸ tag_stable [c]

theorem takeWhile_stable (pr : UInt8 → Bool) : Stable (takeWhile pr) := by
  intro p q
  refine ⟨fun v r h => ?_, fun h => ?_, fun h => ?_⟩
  · obtain ⟨hv, rfl, b, r', rfl, hb⟩ := (takeWhile_ok_iff ..).mp h
    exact (takeWhile_ok_iff ..).mpr ⟨hv, List.append_assoc .., b, r' ++ q, rfl, hb⟩
  · rw [takeWhile_eq] at h
    split at h <;> cases h
  · rw [takeWhile_eq] at h
    split at h <;> cases h

theorem takeUntilLF_stable : Stable takeUntilLF :=
  takeUntilLF_eq_takeWhile ▸ takeWhile_stable _

theorem take_stable (n : Nat) : Stable (take n) := by
  intro p q
  refine ⟨fun v r h => ?_, fun h => ?_, fun h => ?_⟩
  · obtain ⟨hl, rfl⟩ := (take_ok_iff ..).mp h
    exact (take_ok_iff ..).mpr ⟨hl, List.append_assoc ..⟩
  · unfold take at h
    split at h <;> cases h
  · unfold take at h
    split at h <;> cases h

theorem andThen_stable {α β} (f : P α) (g : α → P β)
    (hf : Stable f) (hg : ∀ a, Stable (g a)) : Stable (andThen f g) := by
  intro p q
  obtain ⟨f1, f2, f3⟩ := hf p q
  unfold andThen
  cases h : f p with
  | ok v r =>
    rw [f1 v r h]
    exact hg v r q
  | incomplete => simp
  | error => simp [f2 h]
  | failure => simp [f3 h]

theorem noRead_stable {α} (o : Option α) (e : Res α) (he : ∀ v r, e ≠ .ok v r) :
    Stable fun i => match o with | some w => .ok w i | none => e := by
  intro p q
  cases o with
  | some w => exact ⟨fun v r h => by cases h; rfl, nofun, nofun⟩
  | none => exact ⟨fun v r h => absurd h (he v r), fun h => h, fun h => h⟩

theorem pMap_stable {α β} (p : P α) (f : α → β) (hp : Stable p) : Stable (pMap p f) :=
  andThen_stable p (fun a i => .ok (f a) i) hp fun a => noRead_stable (some (f a)) .error nofun

theorem mapRes_stable {α β} (p : P α) (f : α → Option β) (hp : Stable p) : Stable (mapRes p f) :=
  andThen_stable p (fun a i => match f a with | some w => .ok w i | none => .error) hp
    fun a => noRead_stable (f a) .error nofun

theorem takeWhile1_stable (p : UInt8 → Bool) : Stable (takeWhile1 p) :=
  takeWhile1_eq_mapRes p ▸ mapRes_stable _ _ (takeWhile_stable p)

theorem alt_stable {α} (f g : P α) (hf : Stable f) (hg : Stable g) : Stable (alt f g) := by
  intro p q
  obtain ⟨f1, f2, f3⟩ := hf p q
  unfold alt
  cases h : f p with
  | ok v r => rw [f1 v r h]; exact ⟨fun _ _ e => by cases e; rfl, nofun, nofun⟩
  | incomplete => exact ⟨nofun, nofun, nofun⟩
  | error => rw [f2 h]; exact hg p q
  | failure => rw [f3 h]; exact ⟨nofun, nofun, fun _ => rfl⟩

theorem cut_stable {α} (p : P α) (hp : Stable p) : Stable (cut p) :=
  alt_stable p (fun _ => .failure) hp (noRead_stable none .failure nofun)

theorem opt_eq {α} (p : P α) : opt p = alt (pMap p some) fun i => .ok none i := by
  funext i
  unfold opt alt pMap
  cases p i <;> rfl

theorem opt_stable {α} (p : P α) (hp : Stable p) : Stable (opt p) :=
  opt_eq p ▸ alt_stable _ _ (pMap_stable p some hp) (noRead_stable (some none) .error nofun)

theorem terminated_stable {α β} (p : P α) (q : P β) (hp : Stable p) (hq : Stable q) :
    Stable (terminated p q) :=
  andThen_stable _ _ hp fun _ => pMap_stable _ _ hq

theorem preceded_stable {α β} (p : P α) (q : P β) (hp : Stable p) (hq : Stable q) :
    Stable (preceded p q) :=
  andThen_stable _ _ hp fun _ => hq

theorem number_stable : Stable number := mapRes_stable _ _ (takeWhile1_stable _)

theorem errorCodeAndIndex_stable : Stable errorCodeAndIndex :=
  preceded_stable _ _ (char_stable _) <|
  andThen_stable _ _ number_stable fun _ =>
  preceded_stable _ _ (char_stable _) <|
  andThen_stable _ _ number_stable fun _ =>
  pMap_stable _ _ (char_stable _)

theorem errorCurrentCommand_stable : Stable errorCurrentCommand :=
  preceded_stable _ _ (char_stable _) <|
  terminated_stable _ _ (opt_stable _ (mapRes_stable _ _ (takeWhile1_stable _))) (char_stable _)

theorem error_stable : Stable error :=
  preceded_stable _ _ (tag_stable _) <|
  andThen_stable _ _ (terminated_stable _ _ errorCodeAndIndex_stable (char_stable _)) fun _ =>
  andThen_stable _ _ (terminated_stable _ _ errorCurrentCommand_stable (char_stable _)) fun _ =>
  andThen_stable _ _ (mapRes_stable _ _ (takeWhile_stable _)) fun _ =>
  pMap_stable _ _ (char_stable _)

theorem fieldValue_stable : Stable fieldValue :=
  terminated_stable _ _ takeUntilLF_stable (char_stable _)

theorem keyValueField_stable : Stable keyValueField :=
  andThen_stable _ _ (mapRes_stable _ _ (takeWhile1_stable _)) fun _ =>
  preceded_stable _ _ (tag_stable _) <|
  pMap_stable _ _ (mapRes_stable _ _ fieldValue_stable)

theorem binaryPrefix_stable : Stable binaryPrefix :=
  preceded_stable _ _ (tag_stable _) <|
  cut_stable _ (terminated_stable _ _ number_stable (char_stable _))

theorem binaryField_stable : Stable binaryField :=
  andThen_stable _ _ binaryPrefix_stable fun _ =>
  cut_stable _ (terminated_stable _ _ (take_stable _) (char_stable _))

/-- **prefix stability of `ParsedComponent::parse`** -/
theorem parseComp_stable : Stable parseComp :=
  alt_stable _ _ (pMap_stable _ _ (tag_stable _)) <|
  alt_stable _ _ (pMap_stable _ _ (tag_stable _)) <|
  alt_stable _ _ (pMap_stable _ _ error_stable) <|
  alt_stable _ _ (pMap_stable _ _ binaryField_stable) <|
  pMap_stable _ _ keyValueField_stable

theorem greeting_stable : Stable greeting :=
  preceded_stable _ _ (tag_stable _) <|
  terminated_stable _ _ (mapRes_stable _ _ (takeWhile1_stable _)) (char_stable _)

def Suffix {α} (f : P α) : Prop := ∀ i v r, f i = .ok v r → ∃ c, i = c ++ r

end Mpd.Parser
