import MpdProofs.Lemmas.Conn
/-!
A failed read is invisible. A call on a script in two parts is determined by the call on the first part: if that runs
out of script with the builder pending, going on with the second part from the buffer and builder state it left gives
exactly what the uninterrupted call gives; otherwise the second part is not touched. Running out of script is made
visible by letting the first part end in a read failure `.ioerr k`, which nothing else reports. So a recoverable read
error (time-out, `WouldBlock`) in the middle of a response loses nothing and duplicates nothing.
-/
namespace Mpd.Conn
open Mpd.Builder

theorem recvLoopA_fed {σ σ' : BState} {buf rest : Bytes} (h : feed σ buf = (σ', rest, .pending))
    (cs : List Bytes) (t : Term) : recvLoopA σ buf cs t = recvLoopA σ' rest cs t := by
  cases cs with
  | nil => rw [recvLoopA_pending_nil h, recvLoopA_pending_nil (feed_pending_idem h)]
  | cons c cs => rw [recvLoopA_pending_cons h, recvLoopA_pending_cons (feed_pending_idem h)]

theorem recvLoopA_append {k : Nat} {σ σ' : BState} {buf buf' : Bytes} {cs1 cs' : List Bytes} {it : Item}
    (h : recvLoopA σ buf cs1 (.ioerr k) = (it, buf', cs', σ')) (cs2 : List Bytes) (t : Term) :
    recvLoopA σ buf (cs1 ++ cs2) t =
      if it = .io k then recvLoopA σ' buf' cs2 t else (it, buf', cs' ++ cs2, σ') := by
  generalize ht : Term.ioerr k = t1 at h
  fun_induction recvLoopA σ buf cs1 t1 with
  | case4 σ buf t1 σ₁ rest hf =>
    cases h
    subst ht
    exact (recvLoopA_fed hf cs2 t).trans (if_pos rfl).symm
  | case5 σ buf t1 σ₁ rest hf c cs hc =>
    cases h
    rw [List.cons_append, recvLoopA_pending_cons hf, if_pos hc, if_neg (eofItem_ne_io _ _ _)]
  | case6 σ buf t1 σ₁ rest hf c cs hc ih =>
    rw [List.cons_append, recvLoopA_pending_cons hf, if_neg hc]
    exact ih ht h
  | _ =>  -- a final parse: the second part is not touched
    rename_i hf
    cases h
    exact recvLoopA_final hf Out.noConfusion _ t

/-- The call that goes on from what a failed read left returns what the uninterrupted call returns. Here and in
`recvLoopS_resume`, what is the same throughout the first call (`k`, `t`, `cs2`, `f2`) comes before what it runs on. -/
theorem recvLoopA_resume (k : Nat) (t : Term) (cs2 : List Bytes) (cs1 : List Bytes) (σ : BState) (buf : Bytes)
    (h : (recvLoopA σ buf cs1 (.ioerr k)).1 = .io k) :
    recvLoopA (recvLoopA σ buf cs1 (.ioerr k)).2.2.2 (recvLoopA σ buf cs1 (.ioerr k)).2.1 cs2 t =
      recvLoopA σ buf (cs1 ++ cs2) t :=
  ((recvLoopA_append (rfl : recvLoopA σ buf cs1 (.ioerr k) = (_, _, _, _)) cs2 t).trans (if_pos h)).symm

theorem readChunk_append {space : Nat} {cs1 : List Bytes} {got : Bytes} {cs : List Bytes}
    (h : readChunk space cs1 = some (got, cs)) (cs2 : List Bytes) :
    readChunk space (cs1 ++ cs2) = some (got, cs ++ cs2) := by
  cases cs1 with
  | nil => cases h
  | cons c cs' =>
    rw [List.cons_append, readChunk]
    rw [readChunk] at h
    by_cases hle : c.length ≤ space
    · rw [if_pos hle] at h ⊢
      cases h
      rfl
    · rw [if_neg hle] at h ⊢
      cases h
      rfl

/-- the same for the blocking connection, for some fuel of the uninterrupted call -/
theorem recvLoopS_resume (k : Nat) (t : Term) (cs2 : List Bytes) (f2 : Nat) (f1 : Nat) (cs1 : List Bytes)
    (σ : BState) (b : SBuf)
    (h : (recvLoopS f1 σ b cs1 (.ioerr k)).1 = .io k) :
    ∃ f, recvLoopS f σ b (cs1 ++ cs2) t =
      recvLoopS (f2 + 1) (recvLoopS f1 σ b cs1 (.ioerr k)).2.2.2 (recvLoopS f1 σ b cs1 (.ioerr k)).2.1 cs2 t := by
  generalize Term.ioerr k = t1 at h ⊢
  fun_induction recvLoopS f1 σ b cs1 t1 with
  | case6 fuel σ b cs1 t1 hcap σ₁ rest hf hrc =>
    -- the script of the first call is used up: the uninterrupted call and the resumed one both
    -- start by parsing `rest` again, in buffers of the same capacity
    cases cs1 with
    | cons c cs => rw [readChunk] at hrc; split at hrc <;> cases hrc
    | nil =>
      refine ⟨f2 + 1, ?_⟩
      rw [List.nil_append, recvLoopS_pending hcap hf,
        recvLoopS_pending (b := { b with data := rest }) (fun hlt => hcap (Nat.lt_of_lt_of_le hlt (feed_leaves hf).1))
          (feed_pending_idem hf)]
      rfl
  | case7 fuel σ b cs1 t1 hcap σ₁ rest hf got cs hrc hg => exact absurd h (eofItem_ne_io _ _ _)
  | case8 fuel σ b cs1 t1 hcap σ₁ rest hf got cs hrc hg ih =>
    obtain ⟨f, hfeq⟩ := ih h
    refine ⟨f + 1, ?_⟩
    rw [recvLoopS_pending hcap hf, readChunk_append hrc]
    dsimp only
    rw [if_neg hg]
    exact hfeq
  | _ => cases h  -- out of fuel, buffer overrun, a final parse: not a read failure

end Mpd.Conn
