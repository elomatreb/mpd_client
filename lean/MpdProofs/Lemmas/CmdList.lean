import Mpd.Typed.CmdList
import MpdProofs.Lemmas.Outcome
import MpdProofs.Lemmas.List
/-!
What the two `responses` loops of `Mpd/Typed/CmdList.lean` compute (`zipResponses`, behind the length test
of `vecResponses`, and `tupleResponses`): apply the commands to the frames index-wise
(`List.zipWith`) and collect the outcomes in order, stopping at the first failure (`Outcome.all`).
-/
namespace Mpd.Typed

theorem zipResponses_eq {ρ} (cmds : List (AFrame → Outcome ρ)) (frames : List AFrame) :
    zipResponses cmds frames = Outcome.all (List.zipWith (fun c f => c f) cmds frames) := by
  induction cmds generalizing frames with
  | nil => simp [zipResponses]
  | cons c cs ih =>
    cases frames with
    | nil => simp [zipResponses]
    | cons f fs =>
      -- the nested matches of the loop body are `bind` and `map` written out
      simp only [zipResponses, ih, List.zipWith_cons_cons, Outcome.all]
      cases c f <;> simp only [Outcome.bind]
      cases Outcome.all (List.zipWith (fun c f => c f) cs fs) <;> rfl

theorem tupleResponses_eq {ρ} (cmds : List (AFrame → Outcome ρ)) (frames : List AFrame) :
    tupleResponses cmds frames = (Outcome.all (List.zipWith (fun c f => c f) cmds frames)).bind fun rs =>
      if cmds.length ≤ frames.length then .ok rs else .terr := by
  induction cmds generalizing frames with
  | nil => simp [tupleResponses, Outcome.bind]
  | cons c cs ih =>
    cases frames with
    | nil => simp [tupleResponses, Outcome.bind]
    | cons f fs =>
      simp only [tupleResponses, ih, List.zipWith_cons_cons, Outcome.all, List.length_cons,
        Nat.add_le_add_iff_right]
      cases c f <;> simp only [Outcome.bind]
      cases Outcome.all (List.zipWith (fun c f => c f) cs fs) <;> simp only [Outcome.bind, Outcome.map]
      by_cases hle : cs.length ≤ fs.length <;> simp [hle]

theorem all_zipWith_ne_panic {ρ} {cmds : List (AFrame → Outcome ρ)} {frames : List AFrame}
    (h : ∀ c ∈ cmds, ∀ f ∈ frames, c f ≠ .panic) :
    Outcome.all (List.zipWith (fun c f => c f) cmds frames) ≠ .panic :=
  Outcome.all_ne_panic fun _ ho => by
    obtain ⟨c, hc, f, hf, rfl⟩ := mem_zipWith ho
    exact h c hc f hf

end Mpd.Typed
