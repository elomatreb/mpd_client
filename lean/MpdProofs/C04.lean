import MpdProofs.Lemmas.Skeleton
import MpdProofs.Lemmas.LoopInv
import MpdProofs.Lemmas.StreamRun
import MpdProofs.Lemmas.EndToEnd
/-!
# C04 — subsystem-change notifications are delivered exactly once and in order

Message level, all schedules (`C04_events`): in the closed system of `Lemmas/Skeleton.lean`, for every interleaving,
events delivered ++ changes still in flight = changes reported by the server, in order. Byte level, all runs of the
task model after the greeting: from `Loop.run_decodes` and `Loop.step_effect`.

The step the byte-level statements are about is the one on which the command branch of the `select!` wins while the
live receive future holds complete `changed:` lines of a not yet complete idle reply: the connection keeps the builder
state of the dropped future and the next future resumes from it (`dropFuture`, `St.bstash`; mpd_client before fix F12
dropped those lines).
-/
namespace Mpd.C04
open Mpd.Loop

theorem C04_events (as : List Skeleton.Act) : Skeleton.Events (as.foldl Skeleton.step {}) :=
  (Skeleton.reach_all as).2.2.1

/-- after F1: every `changed` line of the frame becomes an event, in order, and nothing else (the unfixed code
delivered only the first) -/
theorem C04_all_changed_lines (s : St) (f : AFrame) :
    (emitEvents s f).obs = s.obs ++ (changedValues f).map Obs.event :=
  (emitEvents_obs s f).1

example : changedValues { fields := [(str "changed", str "player"), (str "x", str "y"), (str "changed", str "mixer")] } =
    [str "player", str "mixer"] := by decide +kernel

/-- **byte level, all runs**: the events delivered are, in order, exactly the `changed` values of the idle replies among
the responses decoded from the delivered stream (`Attr`) -/
theorem C04_events_from_stream (s0 s : St) (D : Bytes) (h0 : AfterGreeting s0) (hr : Run s0 s D) :
    ∃ cs : List (Consumer × Builder.Response),
      (∀ q, Decodes .initial (D ++ q) (cs.map (·.2)) (future s q)) ∧ Attr cs (responses s.obs) (eventsOf s.obs) := by
  obtain ⟨cs, h1, h2, _⟩ := (run_decodes s0 s D h0 hr).2
  exact ⟨cs, h1, h2⟩

/-- the `changed` values of the responses consumed by the idle loop, in order -/
def idleEvents (cs : List (Consumer × Builder.Response)) : List Bytes :=
  cs.flatMap fun c => match c.1 with
    | .idle => eventsOfReply c.2
    | _ => []

theorem attr_events {cs : List (Consumer × Builder.Response)} {resp : List (Nat × Builder.Response)} {ev : List Bytes}
    (h : Attr cs resp ev) : ev = idleEvents cs := by
  induction h with
  | nil => rfl
  | reply id r _ ih => rw [ih]; simp [idleEvents]
  | idle r _ ih => rw [ih]; simp [idleEvents]
  | verdict r _ ih => rw [ih]; simp [idleEvents]

/-- **exactly the changes the server reported, once, in order** (byte level, all runs, in-order server): the events
delivered so far are the `changed` values of `view srv[i]` for exactly those `i < n` whose line was an `idle`
(`n` = number of responses consumed so far), in order -/
theorem C04_events_for_in_order_server (s0 s : St) (D : Bytes) (h0 : AfterGreeting s0) (hr : Run s0 s D)
    (srv : List Spec.AbsResp) (hwf : ∀ r ∈ srv, Spec.WF r = true) (tail : Bytes)
    (hD : D ++ tail = srv.flatMap Spec.enc) :
    ∃ n, n ≤ srv.length ∧
      eventsOf s.obs = idleEvents (((replyWrites s.obs).take n).zip ((srv.map viewResp).take n)) := by
  obtain ⟨cs, hd, ha, _, ⟨rest, hpre⟩⟩ := (run_decodes s0 s D h0 hr).2
  obtain ⟨hlen, hrs⟩ := decodes_enc srv hwf _ _ (hD ▸ hd tail)
  rw [List.length_map] at hlen hrs
  refine ⟨cs.length, hlen, ?_⟩
  have h1 : (replyWrites s.obs).take cs.length = cs.map (·.1) := by
    rw [hpre]; exact List.take_left' (by simp)
  rw [attr_events ha, h1, ← hrs, ← List.unzip_fst, ← List.unzip_snd, List.zip_unzip]

/-- dropping the live receive future because a request arrived changes nothing about what the connection will decode,
and delivers nothing -/
theorem C04_drop_is_silent (s : St) (σ : Builder.BState) (hpc : s.pc = .idling σ)
    (hq : s.queue ≠ []) (hnp : recvPollable s = false) :
    ∃ s', step s false = some s' ∧ (∀ q, future s' q = future s q) ∧
      responses s'.obs = responses s.obs ∧ eventsOf s'.obs = eventsOf s.obs := by
  have hstep : step s false = some (startCancel (dropFuture s σ)) := by
    unfold step
    rw [hpc]
    have : s.queue.isEmpty = false := by cases h : s.queue <;> simp_all
    simp [this, hnp]
  refine ⟨_, hstep, ?_⟩
  obtain ⟨t, _⟩ := cancel_tail (startCancel_cancel (dropFuture s σ))
  refine ⟨fun q => ?_, t.quiet.1, t.quiet.2⟩
  unfold future
  rw [t.resid]
  simp [resid, σcur, hpc, dropFuture]

/-- an idle reply arrives in two pieces and a request is issued in between; the `changed: options` line already parsed
by the dropped receive future is carried over into the future that waits for the `noidle` reply -/
def k3State : St :=
  { pc := .idling (.inProgress { fields := [(str "changed", str "options")] }), fresh := false,
    queue := [{ id := 1, bytes := str "ping\n" }], senders := 2 }

theorem C04_resume_witness :
    (step k3State false).map (fun s => (s.pc, s.obs)) =
      some (.cancelWait { id := 1, bytes := str "ping\n" } (.inProgress { fields := [(str "changed", str "options")] }),
            [.wrote NOIDLE .noidle]) := by decide +kernel

/-- ... and when the rest of the reply (`OK`) arrives, the event is delivered -/
theorem C04_resume_event :
    ((step k3State false).bind fun s => step { s with avail := str "OK\n" } false).map (fun s => s.obs) =
      some [.wrote NOIDLE .noidle, .event (str "options"), .wrote (str "ping\n") (.request 1)] := by decide +kernel

end Mpd.C04
