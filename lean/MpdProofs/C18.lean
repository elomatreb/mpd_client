import MpdProofs.Lemmas.Wire
import MpdProofs.Lemmas.Parser
import MpdProofs.Lemmas.Conn
/-!
# C18 — handshake (greeting part)

Connecting succeeds exactly when the peer's first line is a valid greeting `OK MPD <version>\n` (version non-empty
UTF-8), however the bytes are segmented. Async connection; the blocking `connectS` is modelled and compared with the
code by the correspondence run only; no theorem is about it.
-/
namespace Mpd.C18
open Mpd.Parser Mpd.Conn

theorem greeting_ok_iff (i v r : Bytes) :
    greeting i = .ok v r ↔ v ≠ [] ∧ LF ∉ v ∧ validUtf8 v = true ∧ i = str "OK MPD " ++ v ++ LF :: r := by
  simp only [greeting, preceded_ok_iff, terminated_ok_iff, mapRes_ok_iff, tag_ok_iff, char_ok_iff,
    takeWhile1_ok_iff, utf8_eq_some, all_ne_iff_not_mem, List.append_assoc]
  constructor
  -- `hi : i = str "OK MPD " ++ _` is handed on: as an `rfl` pattern it would have `rintro` evaluate the literal
  · rintro ⟨_, _, hi, _, _, ⟨_, ⟨hne, hlf, rfl, _⟩, hu, rfl⟩, rfl⟩
    exact ⟨hne, hlf, hu, hi⟩
  · rintro ⟨hne, hlf, hu, hi⟩
    exact ⟨(), _, hi, _, (), ⟨v, ⟨hne, hlf, rfl, _, _, rfl, by decide⟩, hu, rfl⟩, rfl⟩

theorem lf_not_mem_tag : LF ∉ str "OK MPD " := by
  rw [str_ofList]
  decide +kernel

def greetingLine (v : Bytes) : Bytes := str "OK MPD " ++ v ++ [LF]

theorem greeting_line (v tl : Bytes) (hv : v ≠ []) (hlf : LF ∉ v) (hu : validUtf8 v = true) :
    greeting (greetingLine v ++ tl) = .ok v tl :=
  (greeting_ok_iff _ _ _).mpr ⟨hv, hlf, hu, by simp [greetingLine, List.append_assoc]⟩

/-- what `connect` returns for an outcome of `greeting` on everything the script delivers -/
def connectResult (term : Term) : Res Bytes → ConnectResult
  | .ok v _ => .ok v
  | .incomplete => match term with
    | .eof => .unexpectedEof
    | .ioerr k => .io k
  | _ => .invalid

/-- **`connect` is `greeting` on the whole stream**: the parser is run on growing prefixes and, being stable, decides
on a prefix what it decides on the whole -/
theorem connectA_whole (buf : Bytes) (chunks : List Bytes) (term : Term) (hne : NonEmptyChunks chunks)
    (hinc : greeting buf = .incomplete) :
    (connectA buf chunks term).1 = connectResult term (greeting (buf ++ chunks.flatten)) := by
  induction chunks generalizing buf with
  | nil =>
    rw [List.flatten_nil, List.append_nil, hinc]
    cases term <;> rfl
  | cons c cs ih =>
    have hc : c.isEmpty = false := by simpa using hne c (List.mem_cons_self ..)
    obtain ⟨s1, s2, s3⟩ := greeting_stable (buf ++ c) cs.flatten
    rw [connectA, hc, List.flatten_cons, ← List.append_assoc]
    cases hg : greeting (buf ++ c) with
    | ok v r => rw [s1 v r hg]; rfl
    | incomplete => exact ih (buf ++ c) hne.tail hg
    | error => rw [s2 hg]; rfl
    | failure => rw [s3 hg]; rfl

/-- **C18 (accept)**: a stream whose first line is a valid greeting connects, whatever the segmentation, and reports
the version verbatim -/
theorem C18_greeting_accept (v tl : Bytes) (chunks : List Bytes) (term : Term)
    (hne : NonEmptyChunks chunks) (hv : v ≠ []) (hlf : LF ∉ v) (hu : validUtf8 v = true)
    (hflat : chunks.flatten = greetingLine v ++ tl) :
    (connectA [] chunks term).1 = .ok v := by
  rw [connectA_whole [] chunks term hne (by decide), List.nil_append, hflat, greeting_line v tl hv hlf hu]
  rfl

/-- **C18 (only if)**: connecting succeeds only if the bytes read so far start with a valid greeting line, and the
reported version is the one on the wire -/
theorem C18_greeting_sound (buf : Bytes) (chunks : List Bytes) (term : Term) (v : Bytes)
    (h : (connectA buf chunks term).1 = .ok v) :
    ∃ rest, buf ++ chunks.flatten = greetingLine v ++ rest ∧ v ≠ [] ∧ LF ∉ v ∧ validUtf8 v = true := by
  fun_induction connectA buf chunks term with
  | case1 buf term => cases term <;> cases h
  | case2 buf c cs term hc => cases h
  | case3 buf c cs term hc v' r' hg =>
    cases h
    obtain ⟨h1, h2, h3, h4⟩ := (greeting_ok_iff ..).mp hg
    refine ⟨r' ++ cs.flatten, ?_, h1, h2, h3⟩
    rw [List.flatten_cons, ← List.append_assoc, h4, greetingLine]
    simp only [List.append_assoc, List.cons_append, List.nil_append]
  | case4 buf c cs term hc hg ih =>
    obtain ⟨rest, h1, h2⟩ := ih h
    exact ⟨rest, by rw [List.flatten_cons, ← List.append_assoc]; exact h1, h2⟩
  | case5 buf c cs term hc hok hinc => cases h

/-- **C18/C10 (EOF inside the greeting)**: a stream that ends inside an otherwise valid greeting line is an
unexpected-EOF error, at every cut position and under every segmentation -/
theorem C18_greeting_eof (v g q : Bytes) (chunks : List Bytes)
    (hne : NonEmptyChunks chunks) (hv : v ≠ []) (hlf : LF ∉ v) (hu : validUtf8 v = true)
    (hcut : greetingLine v = g ++ q) (hq : q ≠ []) (buf : Bytes)
    (hflat : buf ++ chunks.flatten = g) :
    (connectA buf chunks .eof).1 = .unexpectedEof := by
  -- `buf` and the whole stream `g` are proper prefixes of the greeting line, hence incomplete
  have hfull := greeting_line v [] hv hlf hu
  have hq' : ([] : Bytes).length < q.length := List.length_pos_iff.mpr hq
  have hinc : greeting buf = .incomplete :=
    prefix_incomplete greeting greeting_stable buf (chunks.flatten ++ q) v []
      (by rw [← List.append_assoc, hflat, ← hcut, ← List.append_nil (greetingLine v)]; exact hfull)
      (by rw [List.length_append]; omega)
  have hg : greeting g = .incomplete :=
    prefix_incomplete greeting greeting_stable g q v []
      (by rw [← hcut, ← List.append_nil (greetingLine v)]; exact hfull) hq'
  rw [connectA_whole buf chunks .eof hne hinc, hflat, hg]
  rfl

theorem greeting_incomplete_noLF (i : Bytes) (h : greeting i = .incomplete) : LF ∉ i := by
  unfold greeting preceded andThen at h
  rcases tag_cases (str "OK MPD ") i with ⟨r1, hi, ht⟩ | ⟨s, hs, _⟩ | ht
  · -- the tag is there
    rw [ht] at h
    unfold terminated andThen mapRes at h
    dsimp only at h
    rw [takeWhile1_eq] at h
    rw [hi, List.mem_append, not_or]
    refine ⟨lf_not_mem_tag, ?_⟩
    by_cases hd : r1.dropWhile (· != LF) = []
    · -- the run reached the end of the input: no LF in it
      have hall : (r1.takeWhile (· != LF)).all (· != LF) = true := List.all_takeWhile
      rw [← List.takeWhile_append_dropWhile (p := (· != LF)) (l := r1), hd, List.append_nil]
      exact (all_ne_iff_not_mem LF _).mp hall
    · -- the run ended at a byte that is not part of it, an LF, which `char LF` accepts
      obtain ⟨b, r', hbr⟩ := List.exists_cons_of_ne_nil hd
      have hb : b = LF := by
        have := List.head_dropWhile_not (· != LF) (l := r1) hd
        simpa [hbr] using this
      rw [if_neg hd, hbr, hb] at h
      by_cases htw : r1.takeWhile (· != LF) = []
      · rw [if_pos htw] at h
        cases h
      · rw [if_neg htw] at h
        dsimp only at h
        cases hu : utf8 (r1.takeWhile (· != LF)) with
        | none =>
          rw [hu] at h
          cases h
        | some w =>
          rw [hu] at h
          simp [pMap, char] at h
  · intro hmem
    have : LF ∈ str "OK MPD " := by rw [hs]; exact List.mem_append_left _ hmem
    exact absurd this lf_not_mem_tag
  · rw [ht] at h
    cases h

/-- **C18 (reject)**: if the first line is complete and is not `OK MPD <non-empty utf8>`, connect reports the
invalid-message error, under every segmentation -/
theorem C18_greeting_reject (l tl buf : Bytes) (chunks : List Bytes) (term : Term)
    (hne : NonEmptyChunks chunks) (hl : LF ∉ l)
    (hbad : ¬ ∃ v, l = str "OK MPD " ++ v ∧ v ≠ [] ∧ validUtf8 v = true)
    (hflat : buf ++ chunks.flatten = l ++ LF :: tl)
    (hinc : greeting buf = .incomplete) :
    (connectA buf chunks term).1 = .invalid := by
  -- the whole stream is not accepted, and (containing an LF) not incomplete either
  rw [connectA_whole buf chunks term hne hinc, hflat]
  cases hg : greeting (l ++ LF :: tl) with
  | ok v r =>
    obtain ⟨h1, h2, h3, h4⟩ := (greeting_ok_iff ..).mp hg
    have hl2 : LF ∉ str "OK MPD " ++ v := by
      rw [List.mem_append, not_or]
      exact ⟨lf_not_mem_tag, h2⟩
    exact absurd ⟨v, (append_cons_inj_of_not_mem hl hl2 (by rw [h4, List.append_assoc])).1, h1, h3⟩ hbad
  | incomplete => exact absurd (List.mem_append_right l (List.mem_cons_self ..)) (greeting_incomplete_noLF _ hg)
  | error => rfl
  | failure => rfl

example : (connectA [] [str "OK M", str "PD 0.2", str "3.5\nOK\n"] .eof).1 = .ok (str "0.23.5") :=
  -- the hypotheses of `C18_greeting_accept`, evaluated together
  have h : NonEmptyChunks [str "OK M", str "PD 0.2", str "3.5\nOK\n"] ∧
      str "0.23.5" ≠ [] ∧ LF ∉ str "0.23.5" ∧ validUtf8 (str "0.23.5") = true ∧
      [str "OK M", str "PD 0.2", str "3.5\nOK\n"].flatten = greetingLine (str "0.23.5") ++ str "OK\n" := by
    unfold NonEmptyChunks greetingLine
    repeat rw [str_ofList]
    decide +kernel
  C18_greeting_accept _ _ _ .eof h.1 h.2.1 h.2.2.1 h.2.2.2.1 h.2.2.2.2

/-! A peer that is not MPD is rejected at once: as soon as what has arrived can no longer be the beginning of a
greeting, the very read that brought it ends `connect` with the invalid-message error; no line end is waited for. -/

theorem C18_reject_without_waiting (buf c : Bytes) (cs : List Bytes) (term : Term) (hc : c.isEmpty = false)
    (hinc : greeting (buf ++ c) ≠ .incomplete) (hok : ∀ v r, greeting (buf ++ c) ≠ .ok v r) :
    connectA buf (c :: cs) term = (.invalid, cs) := by
  rw [connectA]
  simp only [hc]
  cases hg : greeting (buf ++ c) with
  | ok v r => exact absurd hg (hok v r)
  | incomplete => exact absurd hg hinc
  | error => rfl
  | failure => rfl

/-- a telnet negotiation, an FTP banner, a near miss: none contains a line end -/
example : (connectA [] [[0xff, 0xfb, 0x01], str "never read"] .eof) = (.invalid, [str "never read"]) ∧
    (connectA [] [str "220 ProFTPD Server ready"] (.ioerr 2)).1 = .invalid ∧
    (connectA [] [str "OK M", str "PX"] .eof).1 = .invalid := by
  repeat rw [str_ofList]
  decide +kernel

end Mpd.C18
