import Mpd.Tag
import MpdSpec.Names
import MpdProofs.Lemmas.Bytes
import MpdProofs.Lemmas.Utf8
/-!
# C20 — tags and subsystems compare, hash and parse by protocol name

Eq/Hash/Ord as functions of the name; what is evaluated about the 31 names (`names_checked`) and
what needs no evaluation (`lookup_table`); `Tag::try_from` characterised on every string; the
subsystem table.
-/
namespace Mpd.C20

theorem C20_tag_eq_iff_name (a b : Tag) : a.eq b = true ↔ a.name = b.name := by
  simp [Tag.eq]

theorem C20_tag_hash_congr (a b : Tag) (h : a.eq b = true) : a.hashInput = b.hashInput := by
  simp [Tag.hashInput, (C20_tag_eq_iff_name a b).mp h]

theorem C20_tag_hash_injective (a b : Tag) (h : a.hashInput = b.hashInput) : a.eq b = true := by
  simp only [Tag.hashInput] at h
  exact (C20_tag_eq_iff_name a b).mpr (List.append_cancel_right h)

/-- this and the next two: `Ord` agrees with `Eq`, is antisymmetric and transitive: a total order on names -/
theorem C20_tag_cmp_eq (a b : Tag) : a.cmp b = 0 ↔ a.eq b = true := by
  rw [C20_tag_eq_iff_name]; exact cmpBytes_eq_zero_iff _ _

theorem C20_tag_cmp_antisymm (a b : Tag) : a.cmp b = -b.cmp a := cmpBytes_antisymm _ _

theorem C20_tag_cmp_trans (a b c : Tag) : a.cmp b = -1 → b.cmp c = -1 → a.cmp c = -1 :=
  cmpBytes_trans _ _ _

theorem C20_tag_cmp_by_name (a b a' b' : Tag) (ha : a.eq a' = true) (hb : b.eq b' = true) :
    a.cmp b = a'.cmp b' := by
  simp [Tag.cmp, (C20_tag_eq_iff_name _ _).mp ha, (C20_tag_eq_iff_name _ _).mp hb]

/-- the catch-all holding a named variant's name is interchangeable with that variant -/
theorem C20_other_interchangeable (v : TagV) :
    (Tag.other v.name).eq (.named v) = true ∧ (Tag.other v.name).hashInput = (Tag.named v).hashInput ∧
    ∀ c : Tag, (Tag.other v.name).cmp c = (Tag.named v).cmp c := by
  simp [Tag.eq, Tag.hashInput, Tag.cmp, Tag.name]

theorem TagV.mem_all (v : TagV) : v ∈ TagV.all := by cases v <;> decide +kernel
theorem SubV.mem_table (v : SubV) : v ∈ Subsystem.table.map Prod.snd := by cases v <;> decide +kernel

/-- What is evaluated about the named variants (the kernel computes the bytes of each name once):
the table lists every variant, and the names are non-empty, over the tag alphabet and pairwise
distinct even ignoring case (each unordered pair is compared once). -/
theorem names_checked :
    (Tag.table.map (·.2)).Perm TagV.all ∧
    (∀ v ∈ TagV.all, v.name ≠ [] ∧ v.name.all isTagChar = true) ∧
    TagV.all.Pairwise fun v w => eqIgnoreCase v.name w.name = false := by decide +kernel

theorem names_valid (v : TagV) : v.name ≠ [] ∧ v.name.all isTagChar = true :=
  names_checked.2.1 v (TagV.mem_all v)

/-- `eqIgnoreCase` is symmetric, so the unordered pairs are enough -/
theorem names_ci_distinct (v w : TagV) (h : eqIgnoreCase v.name w.name = true) : v = w := by
  have hp : TagV.all.Pairwise fun v w => eqIgnoreCase v.name w.name = true → v = w :=
    names_checked.2.2.imp fun hf ht => absurd (hf ▸ ht) Bool.false_ne_true
  exact hp.forall_of_forall_of_flip (fun _ _ _ => rfl) (hp.imp fun r e => (r (eqIgnoreCase_symm _ _ ▸ e)).symm)
    (TagV.mem_all v) (TagV.mem_all w) h

theorem C20_name_injective (v w : TagV) : v.name = w.name → v = w :=
  fun h => names_ci_distinct v w (eqIgnoreCase_of_eq h)

/-- `firstBad p` is the library's search for the first element that fails `p` -/
theorem firstBad_eq_findIdx? (p : UInt8 → Bool) (l : Bytes) : firstBad p l = l.findIdx? fun b => !p b := by
  induction l with
  | nil => rfl
  | cons b bs ih => rw [firstBad, List.findIdx?_cons, ih]; cases p b <;> rfl

theorem firstBad_none_iff (p : UInt8 → Bool) (l : Bytes) : firstBad p l = none ↔ l.all p = true := by
  simp [firstBad_eq_findIdx?]

theorem firstBad_some (p : UInt8 → Bool) (l : Bytes) (n : Nat) (h : firstBad p l = some n) :
    (l.take n).all p = true ∧ ∃ b, l[n]? = some b ∧ p b = false := by
  rw [firstBad_eq_findIdx?, List.findIdx?_eq_some_iff_findIdx_eq] at h
  obtain ⟨hlt, rfl⟩ := h
  refine ⟨?_, _, List.getElem?_eq_getElem hlt, by simpa using List.findIdx_getElem (w := hlt)⟩
  rw [← List.takeWhile_eq_take_findIdx_not]
  exact List.all_takeWhile

theorem C20_parse_rejects_empty : Tag.tryFrom [] = .error .empty := rfl

/-- any character the protocol cannot carry in a field name is rejected, at its position -/
theorem C20_parse_rejects_badchar (raw : Bytes) (hne : raw ≠ []) (hbad : raw.all isTagChar = false) :
    ∃ pos, Tag.tryFrom raw = .error (.invalidChar pos) ∧
      (raw.take pos).all isTagChar = true ∧ ∃ b, raw[pos]? = some b ∧ isTagChar b = false := by
  cases hf : firstBad isTagChar raw with
  | none => rw [firstBad_none_iff] at hf; simp [hf] at hbad
  | some pos =>
    refine ⟨pos, ?_, firstBad_some _ _ _ hf⟩
    cases raw with
    | nil => exact absurd rfl hne
    | cons b bs => simp [Tag.tryFrom, hf]

theorem lookup_map (raw : Bytes) (l : List TagV) :
    Tag.lookup raw (l.map fun v => (v.nameStr, v)) = l.find? fun v => eqIgnoreCase raw v.name := by
  induction l with
  | nil => rfl
  | cons v vs ih =>
    simp only [List.map_cons, Tag.lookup, List.find?_cons, ih, TagV.name]
    cases eqIgnoreCase raw (str v.nameStr) <;> rfl

/-- The scan of the `match_ignore_case!` table is a search among the variants for one whose name
matches. That the pattern of each entry is the `as_str` of its variant is checked by unfolding
the table (no name is evaluated). -/
theorem lookup_table (raw : Bytes) :
    Tag.lookup raw Tag.table = (Tag.table.map (·.2)).find? fun v => eqIgnoreCase raw v.name :=
  lookup_map raw (Tag.table.map Prod.snd)

/-- on a non-empty string over the tag alphabet `Tag::try_from` yields the first variant of the
table whose name matches, or else the string itself -/
theorem tryFrom_valid {raw : Bytes} (hne : raw ≠ []) (hall : raw.all isTagChar = true) :
    (∃ v, eqIgnoreCase raw v.name = true ∧ Tag.tryFrom raw = .ok (.named v)) ∨
    (∀ v : TagV, eqIgnoreCase raw v.name = false) ∧ Tag.tryFrom raw = .ok (.other raw) := by
  cases raw with
  | nil => exact absurd rfl hne
  | cons b bs =>
    simp only [Tag.tryFrom, (firstBad_none_iff _ _).mpr hall, List.isEmpty_cons, Bool.false_eq_true, if_false,
      lookup_table]
    cases hl : (Tag.table.map (·.2)).find? fun v => eqIgnoreCase (b :: bs) v.name with
    | some v => exact .inl ⟨v, List.find?_some (p := fun v : TagV => eqIgnoreCase (b :: bs) v.name) hl, rfl⟩
    | none =>
      rw [List.find?_eq_none] at hl
      exact .inr ⟨fun v => Bool.eq_false_iff.mpr (hl v (names_checked.1.mem_iff.mpr (TagV.mem_all v))), rfl⟩

theorem C20_parse_accepts_iff (raw : Bytes) :
    (∃ t, Tag.tryFrom raw = .ok t) ↔ raw ≠ [] ∧ raw.all isTagChar = true := by
  constructor
  · rintro ⟨t, h⟩
    cases raw with
    | nil => cases h
    | cons b bs =>
      cases hf : firstBad isTagChar (b :: bs) with
      | none => exact ⟨List.cons_ne_nil _ _, (firstBad_none_iff _ _).mp hf⟩
      | some pos => simp [Tag.tryFrom, hf] at h
  · rintro ⟨hne, hall⟩
    rcases tryFrom_valid hne hall with ⟨_, _, h⟩ | ⟨_, h⟩ <;> exact ⟨_, h⟩

/-- every result of `tryFrom` is one of the two cases above -/
theorem C20_parse_result (raw : Bytes) (t : Tag) (h : Tag.tryFrom raw = .ok t) :
    (∃ v, t = .named v ∧ eqIgnoreCase raw v.name = true) ∨
    (t = .other raw ∧ ∀ v : TagV, eqIgnoreCase raw v.name = false) := by
  have hacc := (C20_parse_accepts_iff raw).mp ⟨t, h⟩
  rcases tryFrom_valid hacc.1 hacc.2 with ⟨v, hv, e⟩ | ⟨hunk, e⟩
  · exact .inl ⟨v, Except.ok.inj (h.symm.trans e), hv⟩
  · exact .inr ⟨Except.ok.inj (h.symm.trans e), hunk⟩

/-- lower-casing turns an upper-case letter into a lower-case one and leaves every other byte alone -/
theorem isTagChar_toLower (b : UInt8) : isTagChar (toLower b) = isTagChar b := by
  unfold toLower
  split
  · rename_i h
    simp [isTagChar, isAlpha, h, isLower_of_isUpper h]
  · rfl

theorem all_tagChar_of_ci (a b : Bytes) (h : eqIgnoreCase a b = true) (hb : b.all isTagChar = true) :
    a.all isTagChar = true := by
  have low (l : Bytes) : (l.map toLower).all isTagChar = l.all isTagChar := by
    simp [List.all_map, Function.comp_def, isTagChar_toLower]
  rw [← low, (eqIgnoreCase_iff a b).mp h, low]
  exact hb

/-- any spelling of a named variant's protocol name parses to exactly that variant -/
theorem C20_parse_known_case_insensitive (raw : Bytes) (v : TagV)
    (h : eqIgnoreCase raw v.name = true) : Tag.tryFrom raw = .ok (.named v) := by
  have hne : raw ≠ [] := by
    rintro rfl
    exact (names_valid v).1 (List.map_eq_nil_iff.mp ((eqIgnoreCase_iff [] _).mp h).symm)
  rcases tryFrom_valid hne (all_tagChar_of_ci raw v.name h (names_valid v).2) with ⟨w, hw, e⟩ | ⟨hunk, _⟩
  · rw [e, names_ci_distinct w v (eqIgnoreCase_trans _ raw _ (eqIgnoreCase_symm raw _ ▸ hw) h)]
  · rw [hunk v] at h
    cases h

theorem C20_parse_unknown_verbatim (raw : Bytes) (hne : raw ≠ []) (hall : raw.all isTagChar = true)
    (hunk : ∀ v : TagV, eqIgnoreCase raw v.name = false) : Tag.tryFrom raw = .ok (.other raw) := by
  rcases tryFrom_valid hne hall with ⟨w, hw, _⟩ | ⟨_, e⟩
  · rw [hunk w] at hw
    cases hw
  · exact e

theorem C20_roundtrip_named (v : TagV) : Tag.tryFrom (Tag.named v).name = .ok (.named v) :=
  C20_parse_known_case_insensitive _ v (eqIgnoreCase_refl _)

/-- round trip for every tag the API can produce (a named variant or a result of `tryFrom`) -/
theorem C20_roundtrip_producible (raw : Bytes) (t : Tag) (h : Tag.tryFrom raw = .ok t) :
    Tag.tryFrom t.name = .ok t := by
  rcases C20_parse_result raw t h with ⟨v, rfl, _⟩ | ⟨rfl, _⟩
  · exact C20_roundtrip_named v
  · exact h

/-- exact characterisation for a hand-built catch-all (documented by the crate as unchecked):
the round trip yields an *equal* tag iff it is accepted at all and its text is not a differently
spelled known name -/
theorem C20_roundtrip_handbuilt (raw : Bytes) :
    (∃ t, Tag.tryFrom (Tag.other raw).name = .ok t ∧ t.eq (.other raw) = true) ↔
    (raw ≠ [] ∧ raw.all isTagChar = true ∧ ∀ v : TagV, eqIgnoreCase raw v.name = true → v.name = raw) := by
  constructor
  · rintro ⟨t, ht, heq⟩
    have hacc := (C20_parse_accepts_iff raw).mp ⟨t, ht⟩
    refine ⟨hacc.1, hacc.2, fun v hv => ?_⟩
    rw [show (Tag.other raw).name = raw from rfl, C20_parse_known_case_insensitive raw v hv] at ht
    rw [← Except.ok.inj ht] at heq
    exact (C20_tag_eq_iff_name _ _).mp heq
  · rintro ⟨hne, hall, hk⟩
    rcases tryFrom_valid hne hall with ⟨w, hw, e⟩ | ⟨_, e⟩
    · exact ⟨_, e, (C20_tag_eq_iff_name _ _).mpr (hk w hw)⟩
    · exact ⟨_, e, (C20_tag_eq_iff_name _ _).mpr rfl⟩

theorem tagChar_eq_fieldNameChar : isTagChar = Spec.fieldNameChar := rfl

/-- hence `Tag::try_from` accepts every field name the protocol parser lets through: the
`unwrap`s of the typed layer on field names rest on this -/
theorem tryFrom_ok_of_fieldName (k : Bytes) (h : k ≠ [] ∧ k.all Spec.fieldNameChar = true) :
    ∃ t, Tag.tryFrom k = .ok t :=
  (C20_parse_accepts_iff k).mpr h

theorem sub_lookup_map (raw : Bytes) (l : List SubV) :
    Subsystem.lookup raw (l.map fun v => (v.nameStr, v)) = l.find? fun v => raw == v.name := by
  induction l with
  | nil => rfl
  | cons v vs ih =>
    simp only [List.map_cons, Subsystem.lookup, List.find?_cons, ih, SubV.name]
    cases raw == str v.nameStr <;> rfl

/-- unknown names are preserved verbatim -/
theorem C20_subsystem_name (raw : Bytes) : (Subsystem.fromName raw).name = raw := by
  unfold Subsystem.fromName
  cases h : Subsystem.lookup raw Subsystem.table with
  | none => rfl
  | some v =>
    have h' : (Subsystem.table.map Prod.snd).find? (fun w => raw == w.name) = some v :=
      (sub_lookup_map raw _).symm.trans h
    have hv : (raw == v.name) = true := List.find?_some (p := fun w : SubV => raw == w.name) h'
    exact (eq_of_beq hv).symm

/-- evaluated on the search of `sub_lookup_map`, whose patterns ARE the names of the variants it lists: the kernel
computes the bytes of each name once, not once as a name and once as a pattern -/
theorem C20_subsystem_known (v : SubV) : Subsystem.fromName v.name = .named v := by
  have : ∀ v ∈ Subsystem.table.map Prod.snd,
      (Subsystem.table.map Prod.snd).find? (fun w => v.name == w.name) = some v := by decide +kernel
  have h : Subsystem.lookup v.name Subsystem.table = some v :=
    (sub_lookup_map v.name (Subsystem.table.map Prod.snd)).trans (this v (SubV.mem_table v))
  rw [Subsystem.fromName, h]

theorem C20_subsystem_eq_iff_name (a b : Subsystem) : a.eq b = true ↔ a.name = b.name := by
  simp [Subsystem.eq]

theorem C20_subsystem_hash_congr (a b : Subsystem) (h : a.eq b = true) : a.hashInput = b.hashInput := by
  simp [Subsystem.hashInput, (C20_subsystem_eq_iff_name a b).mp h]

theorem C20_subsystem_other_interchangeable (raw : Bytes) :
    (Subsystem.fromName raw).eq (.other raw) = true := by
  rw [C20_subsystem_eq_iff_name, C20_subsystem_name]; rfl

example : Tag.tryFrom (str "aLbUm") = .ok (.named .Album) :=
  C20_parse_known_case_insensitive _ _ (by decide +kernel)
example : Tag.tryFrom (str "x-custom") = .ok (.other (str "x-custom")) := by decide +kernel
example : (Tag.other (str "Album")).eq (.named .Album) = true := by decide +kernel
example : (Tag.other (str "album")).eq (.named .Album) = false := by decide +kernel
example : Subsystem.fromName (str "playlist") = .named .Queue := C20_subsystem_known .Queue

/-! ## `Tag::try_from` scans `char_indices()`: the bytewise model agrees on every string -/

theorem C20_scan_is_charwise (cs : List Nat) (h : ∀ c ∈ cs, Utf8.isScalar c = true) :
    firstBad isTagChar (Utf8.encodeStr cs) = Utf8.firstBadC Utf8.isTagCharC cs :=
  Utf8.firstBad_tag_encode cs (Utf8.chars_of_scalar cs h)

/-- non-vacuity: KELVIN SIGN (U+212A, three bytes) in `alKum` is refused at byte offset 2 -/
example : Utf8.firstBadC Utf8.isTagCharC [97, 108, 0x212A, 117, 109] = some 2 := by decide +kernel

end Mpd.C20
