import MpdProofs.Lemmas.Skeleton
import MpdProofs.Lemmas.LoopInv
import Mpd.Client
import MpdProofs.Lemmas.StreamRun
import MpdProofs.Lemmas.EndToEnd
/-!
# C01 — every request is answered with its own reply, in issue order

Three layers: the message-level closed system client-skeleton ∥ wires ∥ MPD server (`Lemmas/Skeleton.lean`), for
EVERY interleaving of callers, client steps, server steps, notifications and timer expiry; the byte-level task model,
per step and along every run after the greeting up to the first broken poll; the caller side.

PARTIAL: the gap between the byte-level model and the skeleton (that the server's i-th reply block answers the i-th
request block written, i.e. the server side of the wire) is validated per trace by the correspondence run (the oracle
replays the implementation's writes through `Spec.Server`), not proved; tokio's scheduler fairness and write
back-pressure are outside the model.
-/
namespace Mpd.C01

/-- **pairing**, all schedules: an answer handed to a caller is the server's reply to that caller's own request, never
an idle reply, never another caller's -/
theorem C01_pairing (as : List Skeleton.Act) (p : Skeleton.Req × Skeleton.Msg)
    (h : p ∈ (as.foldl Skeleton.step {}).answered) : p.2 = .reply p.1 :=
  (Skeleton.reach_all as).2.1 p h

/-- **issue order = service order**, all schedules -/
theorem C01_fifo (as : List Skeleton.Act) : Skeleton.Fifo (as.foldl Skeleton.step {}) :=
  (Skeleton.reach_all as).2.2.2

theorem C01_one_in_flight (as : List Skeleton.Act) : (as.foldl Skeleton.step {}).s2c.length ≤ 1 :=
  (Skeleton.reach_all as).1.wires.1

/-- **request accounting** on the byte-level task model, every step: (answered ++ in flight ++ queued) is preserved as
a multiset; cancelling a caller only drops its receiver -/
theorem C01_accounting (s s' : Loop.St) (rf : Bool) (h : Loop.step s rf = some s') :
    ∀ id, (Loop.accounted s').count id = (Loop.accounted s).count id :=
  Loop.step_accounted s s' rf h

/-- **replies come from the stream**, all runs of the byte-level task model: the delivered bytes decode to
responses that `Attr` attributes, one by one, to the replies callers got and the events delivered -/
theorem C01_replies_from_stream (s0 s : Loop.St) (D : Bytes) (h0 : Loop.AfterGreeting s0) (hr : Loop.Run s0 s D) :
    ∃ cs : List (Loop.Consumer × Builder.Response),
      (∀ q, Loop.Decodes .initial (D ++ q) (cs.map (·.2)) (Loop.future s q)) ∧
      Loop.Attr cs (Loop.responses s.obs) (Loop.eventsOf s.obs) ∧
      (Loop.Terminal s ∨ Loop.replyWrites s.obs = cs.map (·.1) ++ Loop.outstanding s.pc) := by
  obtain ⟨cs, h1, h2, h3, _⟩ := (Loop.run_decodes s0 s D h0 hr).2
  exact ⟨cs, h1, h2, h3⟩

/-- **pairing by position**, all runs: the j-th response of the stream is consumed by the consumer of the j-th
reply-producing line written, and at most one such line is ever unanswered -/
theorem C01_one_outstanding (s0 s : Loop.St) (D : Bytes) (h0 : Loop.AfterGreeting s0) (hr : Loop.Run s0 s D) :
    Loop.Terminal s ∨ ∃ cs : List (Loop.Consumer × Builder.Response),
      (∀ q, Loop.Decodes .initial (D ++ q) (cs.map (·.2)) (Loop.future s q)) ∧
      Loop.replyWrites s.obs = cs.map (·.1) ++ Loop.outstanding s.pc ∧ (Loop.outstanding s.pc).length ≤ 1 :=
  Loop.one_outstanding s0 s D h0 hr

/-- **end to end at byte level**: for a peer whose stream is the concatenation of the encodings of its well-formed
replies, the i-th response consumed is the view of its i-th reply, consumed by the consumer of the i-th
reply-producing line written -/
theorem C01_pairing_end_to_end (s0 s : Loop.St) (D : Bytes) (h0 : Loop.AfterGreeting s0) (hr : Loop.Run s0 s D)
    (srv : List Spec.AbsResp) (hwf : ∀ r ∈ srv, Spec.WF r = true) (tail : Bytes)
    (hD : D ++ tail = srv.flatMap Spec.enc) :
    ∃ cs : List (Loop.Consumer × Builder.Response),
      Loop.Attr cs (Loop.responses s.obs) (Loop.eventsOf s.obs) ∧
      (Loop.Terminal s ∨ Loop.replyWrites s.obs = cs.map (·.1) ++ Loop.outstanding s.pc) ∧
      (∃ rest, Loop.replyWrites s.obs = cs.map (·.1) ++ rest) ∧
      cs.length ≤ srv.length ∧
      ∀ i, i < cs.length → (cs.map (·.2))[i]? = (srv.map Loop.viewResp)[i]? :=
  Loop.pairing_end_to_end s0 s D h0 hr srv hwf tail hD

/-- **every caller gets the reply to its own request** (byte level, all runs, FIFO peer) -/
theorem C01_caller_gets_own_reply (s0 s : Loop.St) (D : Bytes) (h0 : Loop.AfterGreeting s0) (hr : Loop.Run s0 s D)
    (srv : List Spec.AbsResp) (hwf : ∀ r ∈ srv, Spec.WF r = true) (tail : Bytes)
    (hD : D ++ tail = srv.flatMap Spec.enc) (id : Nat) (r : Builder.Response)
    (hmem : (id, r) ∈ Loop.responses s.obs) :
    ∃ i : Nat, (srv.map Loop.viewResp)[i]? = some r ∧
      (Loop.replyWrites s.obs)[i]? = some (Loop.Consumer.reply id) :=
  Loop.caller_gets_own_reply s0 s D h0 hr srv hwf tail hD id r hmem

/-- **the reply the server produced for that request** (byte level, all runs, in-order server): if the peer's i-th
reply is its answer to the i-th reply-producing line it received and `R id` is what it answers to the request with
ghost id `id`, the response a caller is handed for request `id` is exactly `view (R id)` -/
theorem C01_own_reply_for_in_order_server (s0 s : Loop.St) (D : Bytes) (h0 : Loop.AfterGreeting s0)
    (hr : Loop.Run s0 s D) (R : Nat → Spec.AbsResp)
    (srv : List Spec.AbsResp) (hwf : ∀ r ∈ srv, Spec.WF r = true) (tail : Bytes)
    (hD : D ++ tail = srv.flatMap Spec.enc)
    (hinorder : ∀ (i : Nat) (id : Nat), (Loop.replyWrites s.obs)[i]? = some (Loop.Consumer.reply id) → ∀ a, srv[i]? = some a → a = R id)
    (id : Nat) (r : Builder.Response) (hmem : (id, r) ∈ Loop.responses s.obs) :
    r = Loop.viewResp (R id) := by
  obtain ⟨i, h1, h2⟩ := C01_caller_gets_own_reply s0 s D h0 hr srv hwf tail hD id r hmem
  rw [List.getElem?_map, Option.map_eq_some_iff] at h1
  obtain ⟨a, hsi, rfl⟩ := h1
  rw [hinorder i id h2 a hsi]

/-! non-vacuity: a concrete run (idle, a request arrives, `noidle`, the idle reply, the request, its reply) satisfies
the premises -/
namespace Example
open Loop

def brokenB (s : St) : Bool :=
  match (pollRecv { s with fresh := false } (σcur s)).2 with
  | .ready it => !it.isResp
  | .pending _ => false

theorem not_broken_of (s : St) (h : brokenB s = false) : ¬ Broken s := by
  rintro ⟨it, hit, hp⟩
  unfold brokenB at h
  rw [hp] at h
  simp [hit] at h

def after (s : St) : St := (step s false).getD s

theorem run_after {s0 s : St} {D : Bytes} (hr : Run s0 s D) (h : (step s false).isSome = true)
    (hb : brokenB s = false) : Run s0 (after s) D := by
  cases hs : step s false with
  | none => rw [hs] at h; cases h
  | some s' =>
    have : after s = s' := by unfold after; rw [hs]; rfl
    rw [this]
    exact .task s' false hr hs (not_broken_of s hb)

def s0 : St := { pc := .spawned, obs := [.connected (.ok (str "0.23.5"))] }
def s1 : St := after s0                                                   -- `idle` written
def s2 : St := { s1 with queue := [{ id := 1, bytes := str "ping\n" }], senders := 2 }   -- a caller enqueues
def s3 : St := after s2                                                   -- `noidle` written
def s4 : St := { s3 with avail := s3.avail ++ str "changed: mixer\nOK\n" }             -- the idle reply arrives
def s5 : St := after s4                                                   -- event, request written
def s6 : St := { s5 with avail := s5.avail ++ str "foo: bar\nOK\n" }                   -- its reply arrives
def s7 : St := after s6                                                   -- the caller is answered

/-- the in-order server of this run: its answer to `idle`, then its answer to request 1 -/
def srv7 : List Spec.AbsResp :=
  [{ listForm := false, frames := [{ fields := [(str "changed", str "mixer")] }] },
   { listForm := false, frames := [{ fields := [(str "foo", str "bar")] }] }]

/-- all that is evaluated about this run, in one declaration, so that the kernel computes `s1` … `s7` (and each `str`
literal) once: the four task steps are taken and none of them ends a poll with something else than a response; what the
run observed; `srv7` is well formed and sends what was delivered -/
theorem evaluated :
    (((step s0 false).isSome = true ∧ brokenB s0 = false) ∧ ((step s2 false).isSome = true ∧ brokenB s2 = false) ∧
      ((step s4 false).isSome = true ∧ brokenB s4 = false) ∧ ((step s6 false).isSome = true ∧ brokenB s6 = false)) ∧
    (eventsOf s7.obs, (responses s7.obs).map (·.1), replyWrites s7.obs) = ([str "mixer"], [1], [.idle, .reply 1]) ∧
    (∀ a ∈ srv7, Spec.WF a = true) ∧
    (str "changed: mixer\nOK\n" ++ str "foo: bar\nOK\n") ++ [] = srv7.flatMap Spec.enc := by decide +kernel

theorem run7 : Run s0 s7 (str "changed: mixer\nOK\n" ++ str "foo: bar\nOK\n") := by
  have h := evaluated.1
  have r1 : Run s0 s1 [] := run_after .start h.1.1 h.1.2
  have r2 : Run s0 s2 [] := .env s2 r1 ⟨rfl, rfl, rfl, rfl, rfl⟩
  have r3 : Run s0 s3 [] := run_after r2 h.2.1.1 h.2.1.2
  have r4 : Run s0 s4 ([] ++ str "changed: mixer\nOK\n") := .deliver _ r3
  have r5 := run_after r4 h.2.2.1.1 h.2.2.1.2
  have r6 : Run s0 s6 ([] ++ str "changed: mixer\nOK\n" ++ str "foo: bar\nOK\n") := .deliver _ r5
  have r7 : Run s0 s7 ([] ++ str "changed: mixer\nOK\n" ++ str "foo: bar\nOK\n") :=
    run_after r6 h.2.2.2.1 h.2.2.2.2
  rw [List.nil_append] at r7
  exact r7

example : AfterGreeting s0 := afterGreeting_spawned _

/-- what the run observed: the event, then the caller's own reply -/
example : (eventsOf s7.obs, (responses s7.obs).map (·.1), replyWrites s7.obs) =
    ([str "mixer"], [1], [.idle, .reply 1]) := evaluated.2.1

/-- `C01_own_reply_for_in_order_server` applies to this run: its premises hold -/
example : ∀ r, (1, r) ∈ responses s7.obs → r = viewResp (srv7.getD 1 default) := by
  intro r hr
  refine C01_own_reply_for_in_order_server s0 s7 _ (afterGreeting_spawned _) run7 (fun _ => srv7.getD 1 default) srv7
    evaluated.2.2.1 [] evaluated.2.2.2 ?_ 1 r hr
  intro i id hi a ha
  have hw : replyWrites s7.obs = [.idle, .reply 1] := congrArg (·.2.2) evaluated.2.1
  rw [hw] at hi
  -- only the line at position 1 is a request
  rcases i with _ | _ | i
  · cases hi
  · exact (Option.some.inj ha).symm
  · cases hi

end Example

/-- one step (`Loop.Effect`): it consumes nothing of the stream and delivers nothing; or it consumes exactly the next
response and delivers it to the request in flight or to the event stream; or the poll returned something else than a
response and nothing is delivered -/
theorem C01_step_effect (s s' : Loop.St) (rf : Bool) (hc : s.pc ≠ .connecting) (h : Loop.step s rf = some s') :
    Loop.Effect s s' := Loop.step_effect s s' rf hc h

/-- **partial list failure**: `raw_command_list` returns the server's error and exactly the frames of the commands that
succeeded before it, in order -/
theorem C01_partial_list (frames : List AFrame) (e : Parser.Err) :
    Client.listResult (.response { frames := frames, error := some e }) = .error (.errorResponse e frames) := rfl

theorem C01_full_list (frames : List AFrame) :
    Client.listResult (.response { frames := frames, error := none }) = .ok frames := rfl

end Mpd.C01
