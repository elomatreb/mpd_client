import Mpd.Command
import MpdSpec.Tokenizer
import MpdProofs.Lemmas.Tok
import MpdProofs.Lemmas.Utf8
/-!
# C06 — command arguments reach the server byte for byte

The property, FALSE on the code as it is:

    ∀ n as c, build n = .ok c → (∀ a ∈ as, accepted a) →
      ∃ line, addArguments c as = .ok line ∧ Spec.Tok.tokenizeLine line = some (n, as)

where `accepted a` (no LF, no NUL) is "the builder accepts the string argument". The round trip holds iff no argument is in the class `K1` (contains `'`, `"` or `\` and no byte `≤ 0x20`): MPD reads the line as
the name and `readBack a` for each argument `a` (the argument itself outside `K1`; inside `K1` the escaped
bytes, or a rejection), `tokenizeLine_line`.

MPD's limit of 16 arguments per request is not part of the tokenizer model.
-/
namespace Mpd.C06
open Mpd.Cmd Spec.Tok Mpd.TokL

/-- the string argument contains neither LF nor NUL (what `validate_argument` lets through) -/
def accepted (a : Bytes) : Prop := LF ∉ a ∧ (0 : UInt8) ∉ a

instance (a : Bytes) : Decidable (accepted a) := by unfold accepted; infer_instance

theorem accepted_iff_clean {a : Bytes} : accepted a ↔ Clean a := Iff.rfl

theorem clean_rendered_iff (a : Bytes) : Clean (escapeArgument a) ↔ accepted a :=
  (clean_escapeArgument a).trans accepted_iff_clean.symm

/-- known finding K1: a quote or backslash, and nothing that forces quoting -/
def K1 (a : Bytes) : Prop := a.any shouldEscape = true ∧ needsQuotes a = false

instance (a : Bytes) : Decidable (K1 a) := by unfold K1; infer_instance

/-- `K1` is the class the driver evaluates (`Mpd.Cmd.isK1`) -/
theorem K1_iff_isK1 (a : Bytes) : K1 a ↔ isK1 a = true := by
  simp [K1, isK1]

theorem K1.accepted {a : Bytes} (h : K1 a) : accepted a :=
  accepted_iff_clean.mpr (Clean.of_noWs ((needsQuotes_false_iff a).mp h.2).2)

def encArgs (as : List Bytes) : Bytes := as.flatMap fun a => SPACE :: escapeArgument a

def line (n : Bytes) (as : List Bytes) : Bytes := n ++ encArgs as

@[simp] theorem encArgs_nil : encArgs [] = [] := rfl
@[simp] theorem encArgs_cons (a : Bytes) (as : List Bytes) :
    encArgs (a :: as) = SPACE :: (escapeArgument a ++ encArgs as) := by
  simp [encArgs]

theorem C06_accepted_iff (c a : Bytes) :
    (∃ c', (addArgument c a).1 = .ok c') ↔ accepted a := by
  unfold addArgument
  by_cases h : Clean (escapeArgument a)
  · rw [addRendered_clean c _ h]
    exact ⟨fun _ => (clean_rendered_iff a).mp h, fun _ => ⟨_, rfl⟩⟩
  · obtain ⟨i, hi⟩ := addRendered_unclean c _ h
    rw [hi]
    exact ⟨fun ⟨_, hc⟩ => (by simp at hc), fun ha => absurd ((clean_rendered_iff a).mpr ha) h⟩

/-- an argument with a line feed or a NUL is refused, and the command is exactly as before -/
theorem C06_rejected (c a : Bytes) (h : ¬ accepted a) :
    ∃ e, addArgument c a = (.error e, c) := by
  obtain ⟨i, hi⟩ := addRendered_unclean c (escapeArgument a)
    (fun hc => h ((clean_rendered_iff a).mp hc))
  exact ⟨_, hi⟩

theorem addArgument_accepted (c a : Bytes) (h : accepted a) :
    addArgument c a = (.ok (c ++ SPACE :: escapeArgument a), c ++ SPACE :: escapeArgument a) :=
  addRendered_clean c _ ((clean_rendered_iff a).mpr h)

theorem addArguments_accepted (c : Bytes) (as : List Bytes) (h : ∀ a ∈ as, accepted a) :
    addArguments c as = .ok (c ++ encArgs as) := by
  induction as generalizing c with
  | nil => simp [addArguments]
  | cons a as ih =>
    have ha := h a (by simp)
    simp only [addArguments, addArgument_accepted c a ha]
    rw [ih _ fun x hx => h x (by simp [hx])]
    simp

theorem encArgs_eq_args (as : List Bytes) : encArgs as = args (as.map escapeArgument) := by
  simp [encArgs, args, List.flatMap_map]

theorem tokenizeLine_line {n : Bytes} (hn : NameOk n) (as : List Bytes) (h : ∀ a ∈ as, accepted a) :
    tokenizeLine (line n as) = (as.mapM readBack).map fun xs => (n, xs) := by
  rw [line, encArgs_eq_args]
  exact tokenizeLine_args escapeArgument readBack hn as fun a ha => reads_escapeArgument (h a ha).2

/-- **Exact characterisation.** For every accepted name and every list of accepted arguments, MPD reads back
the name and exactly those arguments iff no argument is in `K1`. -/
theorem C06_iff_no_K1 (n c : Bytes) (as : List Bytes) (hb : build n = .ok c)
    (hacc : ∀ a ∈ as, accepted a) :
    (∃ l, addArguments c as = .ok l ∧ tokenizeLine l = some (n, as)) ↔ ∀ a ∈ as, ¬ K1 a := by
  obtain ⟨rfl, hn⟩ := (build_ok_iff n c).mp hb
  have key : tokenizeLine (line c as) = some (c, as) ↔ ∀ a ∈ as, ¬ K1 a := by
    rw [tokenizeLine_line hn as hacc]
    have := mapM_eq_some_map_iff readBack id as
    simp only [List.map_id, id_eq] at this
    simp only [K1_iff_isK1, Bool.not_eq_true, ← readBack_eq_self_iff, ← this]
    cases as.mapM readBack <;> simp
  simpa only [addArguments_accepted c as hacc, Except.ok.injEq, exists_eq_left', line] using key

/-- **C06 outside K1**: the builder accepts, and MPD's tokenizer splits the line into exactly the name and
exactly the arguments. -/
theorem C06_partial (n c : Bytes) (as : List Bytes) (hb : build n = .ok c)
    (h : ∀ a ∈ as, accepted a ∧ ¬ K1 a) :
    ∃ l, addArguments c as = .ok l ∧ l = line n as ∧ tokenizeLine l = some (n, as) := by
  obtain ⟨l, h1, h2⟩ := (C06_iff_no_K1 n c as hb fun a ha => (h a ha).1).mpr fun a ha => (h a ha).2
  obtain ⟨rfl, _⟩ := (build_ok_iff n c).mp hb
  refine ⟨l, h1, ?_, h2⟩
  rw [addArguments_accepted c as fun a ha => (h a ha).1] at h1
  cases h1; rfl

/-- **K1 is a genuine failure**: the line built for a single `K1` argument is not read back as that argument
(the rendering is the one the crate's tests expect). -/
theorem C06_K1_fails (n c a : Bytes) (hb : build n = .ok c) (hk : K1 a) :
    addArguments c [a] = .ok (line n [a]) ∧ tokenizeLine (line n [a]) ≠ some (n, [a]) := by
  obtain ⟨rfl, _⟩ := (build_ok_iff n c).mp hb
  have hacc : ∀ x ∈ [a], accepted x := by simpa using hk.accepted
  refine ⟨addArguments_accepted c [a] hacc, fun ht => ?_⟩
  have := (C06_iff_no_K1 c c [a] hb hacc).mp ⟨_, addArguments_accepted c [a] hacc, ht⟩
  exact this a (by simp) hk

/-- one `K1` argument anywhere in the list and MPD does not read the list back -/
theorem C06_K1_fails_anywhere (n c : Bytes) (as : List Bytes) (hb : build n = .ok c)
    (hacc : ∀ a ∈ as, accepted a) (hk : ∃ a ∈ as, K1 a) :
    ∀ l, addArguments c as = .ok l → tokenizeLine l ≠ some (n, as) := by
  intro l hl ht
  obtain ⟨a, ha, hka⟩ := hk
  exact (C06_iff_no_K1 n c as hb hacc).mp ⟨l, hl, ht⟩ a ha hka

/-- the same on the wire: `Connection::send` writes one request, and it is `(n, as)` -/
theorem C06_wire (n c : Bytes) (as : List Bytes) (hb : build n = .ok c)
    (h : ∀ a ∈ as, accepted a ∧ ¬ K1 a) :
    ∃ l, addArguments c as = .ok l ∧ tokenizeStream (sendBytes l) = some [some (n, as)] := by
  obtain ⟨l, h1, h2, h3⟩ := C06_partial n c as hb h
  refine ⟨l, h1, ?_⟩
  obtain ⟨rfl, hn⟩ := (build_ok_iff n c).mp hb
  have hc : Clean l := by
    rw [h2, line, encArgs_eq_args]
    exact hn.clean.append (clean_args _ (List.forall_mem_map.mpr fun a ha => (clean_rendered_iff a).mpr (h a ha).1))
  rw [tokenizeStream_sendBytes l hc.1, h3]

/-! witnesses of K1; the renderings are those of the crate's tests `argument_escaping` / `argument_rendering` -/

/-- `Joe's` is sent as `Joe\'s`; MPD: "Invalid unquoted character" -/
theorem C06_K1_witness_squote :
    addArguments (str "find") [str "Joe's"] = .ok (str "find Joe\\'s") ∧
    tokenizeLine (str "find Joe\\'s") = none := by
  repeat rw [str_ofList]
  decide +kernel

/-- `a\b` is sent as `a\\b`; MPD reads the four bytes `a\\b` -/
theorem C06_K1_witness_bslash :
    addArguments (str "find") [str "a\\b"] = .ok (str "find a\\\\b") ∧
    tokenizeLine (str "find a\\\\b") = some (str "find", [str "a\\\\b"]) := by
  repeat rw [str_ofList]
  decide +kernel

/-- `foo"bar` is sent as `foo\"bar`; MPD: "Invalid unquoted character" -/
theorem C06_K1_witness_dquote :
    addArguments (str "find") [str "foo\"bar"] = .ok (str "find foo\\\"bar") ∧
    tokenizeLine (str "find foo\\\"bar") = none := by
  repeat rw [str_ofList]
  decide +kernel

theorem build_find : build (str "find") = .ok (str "find") := by decide +kernel

example : build (str "find") = .ok (str "find") := build_find

def sampleArgs : List Bytes :=
  [str "a b", [TAB], str "say \"hi\" it's", [], [0x0d], [0xc3, 0xa9, 0xe6, 0x97, 0xa5], str "x \\", str "plain"]

theorem sampleArgs_ok : ∀ a ∈ sampleArgs, accepted a ∧ ¬ K1 a := by
  unfold sampleArgs
  repeat rw [str_ofList]
  decide +kernel

example : ∀ a ∈ sampleArgs, accepted a ∧ ¬ K1 a := sampleArgs_ok

example : addArguments (str "find") sampleArgs = .ok (line (str "find") sampleArgs) ∧
    tokenizeLine (line (str "find") sampleArgs) = some (str "find", sampleArgs) := by
  obtain ⟨l, h1, h2, h3⟩ := C06_partial (str "find") (str "find") sampleArgs build_find sampleArgs_ok
  subst h2; exact ⟨h1, h3⟩

example : K1 (str "Joe's") ∧ K1 (str "a\\b") ∧ K1 (str "foo\"bar") := by decide +kernel
example : ¬ accepted (str "a\nb") ∧ ¬ accepted [97, 0, 98] := by decide +kernel

/-- `escape_argument` iterates `chars()`: on every Rust string its transcription on chars,
`Utf8.escapeArgumentC`, produces the bytes the bytewise model produces, and those bytes are in the model's
domain (`validUtf8`). So the theorems above speak about every string, multi-byte characters included. -/
theorem C06_escape_is_charwise (cs : List Nat) (h : ∀ c ∈ cs, Utf8.isScalar c = true) :
    escapeArgument (Utf8.encodeStr cs) = Utf8.encodeStr (Utf8.escapeArgumentC cs) ∧
    validUtf8 (Utf8.encodeStr cs) = true :=
  ⟨Utf8.escapeArgument_encode cs (Utf8.chars_of_scalar cs h), Utf8.validUtf8_encodeStr cs h⟩

/-- non-vacuity: `Björk "Jóga"` (two-byte chars before a quote and a blank) -/
example : Utf8.encodeStr (Utf8.escapeArgumentC [66, 106, 246, 114, 107, 32, 34, 74, 243, 103, 97, 34]) =
    [34, 66, 106, 195, 182, 114, 107, 32, 92, 34, 74, 195, 179, 103, 97, 92, 34, 34] := by decide +kernel

end Mpd.C06
