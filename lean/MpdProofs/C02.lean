import MpdProofs.Lemmas.Conn
import MpdProofs.Lemmas.Flaky
import MpdProofs.Lemmas.FlakyS
/-!
# C02 — parsed responses do not depend on how the byte stream is split into reads

For every byte stream, every segmentation into non-empty reads, every terminal condition and both connection
flavours, the session (the `receive()` results up to and including the first that is not a response) equals
`decodeAll`, the decoding of the whole stream delivered at once.
-/
namespace Mpd.C02
open Mpd.Builder Mpd.Conn

/-- **async connection**: any segmentation = whole-stream decoding -/
theorem C02_async (fuel : Nat) (buf : Bytes) (chunks : List Bytes) (term : Term)
    (hne : NonEmptyChunks chunks) :
    sessionA fuel 0 .initial buf chunks term = decodeAll fuel (buf ++ chunks.flatten) term := by
  induction fuel generalizing buf chunks with
  | zero => rfl
  | succ fuel ih =>
    rcases hr : recvLoopA .initial buf chunks term with ⟨it, buf', cs', σ'⟩
    obtain ⟨out, hF, rfl, hne'⟩ := recvLoopA_feed hne hr
    rw [sessionA_succ fuel 0 hr, decodeAll_succ fuel term hF]
    refine cons_ite_congr fun hresp => ?_
    obtain ⟨r, rfl⟩ := isResp_callItem hresp
    -- after a response the builder is `.initial` again, so the induction hypothesis applies
    cases callItem_resp_initial hF (t := term) (u := []) (r := r) rfl
    exact ih buf' cs' hne'

/-- **blocking connection** (fixed buffer of any positive size, doubling when full): the same -/
theorem C02_sync (fuel : Nat) (b : SBuf) (chunks : List Bytes) (term : Term)
    (hne : NonEmptyChunks chunks) (hinv : SInv b) :
    sessionS fuel 0 .initial b chunks term = decodeAll fuel (b.data ++ chunks.flatten) term := by
  induction fuel generalizing b chunks with
  | zero => rfl
  | succ fuel ih =>
    rcases hr : recvLoopS (scriptLen chunks + 1) .initial b chunks term with ⟨it, b', cs', σ'⟩
    obtain ⟨out, hF, rfl, _, hne', hinv', _⟩ := recvLoopS_feed hne hinv hr (.inl (Nat.lt_succ_self _))
    rw [sessionS_succ fuel 0 hr, decodeAll_succ fuel term hF]
    refine cons_ite_congr fun hresp => ?_
    obtain ⟨r, rfl⟩ := isResp_callItem hresp
    cases callItem_resp_initial hF (t := term) (u := []) (r := r) rfl
    exact ih b' cs' hne' hinv'

theorem fresh_inv : SInv { cap := DEFAULT_CAP, data := [] } := by unfold SInv DEFAULT_CAP; simp

/-- **C02**: the results depend only on the bytes sent — not on the segmentation, not on the flavour -/
theorem C02_segmentation_independent (fuel : Nat) (c1 c2 : List Bytes) (term : Term)
    (h1 : NonEmptyChunks c1) (h2 : NonEmptyChunks c2) (hflat : c1.flatten = c2.flatten) :
    sessionA fuel 0 .initial [] c1 term = sessionA fuel 0 .initial [] c2 term ∧
    sessionS fuel 0 .initial { cap := DEFAULT_CAP, data := [] } c1 term = sessionS fuel 0 .initial { cap := DEFAULT_CAP, data := [] } c2 term ∧
    sessionA fuel 0 .initial [] c1 term = sessionS fuel 0 .initial { cap := DEFAULT_CAP, data := [] } c2 term := by
  rw [C02_async fuel [] c1 term h1, C02_async fuel [] c2 term h2,
    C02_sync fuel _ c1 term h1 fresh_inv, C02_sync fuel _ c2 term h2 fresh_inv, hflat]
  simp

/-- the fuel only bounds the number of responses: with more fuel than bytes the session does not depend on it -/
theorem decodeAll_fuel (f1 f2 : Nat) (s : Bytes) (term : Term) (h1 : s.length < f1) (h2 : s.length < f2) :
    decodeAll f1 s term = decodeAll f2 s term := by
  induction f1 generalizing f2 s with
  | zero => exact absurd h1 (Nat.not_lt_zero _)
  | succ f1 ih =>
    cases f2 with
    | zero => exact absurd h2 (Nat.not_lt_zero _)
    | succ f2 =>
      rcases hf : feed .initial s with ⟨σ', rest, out⟩
      rw [decodeAll_succ f1 term hf, decodeAll_succ f2 term hf]
      refine cons_ite_congr fun hresp => ?_
      obtain ⟨r, rfl⟩ := isResp_callItem hresp
      have hlt := ((feed_leaves hf).2.1 r rfl).2
      exact ih f2 rest (Nat.lt_of_lt_of_le hlt (Nat.le_of_lt_succ h1)) (Nat.lt_of_lt_of_le hlt (Nat.le_of_lt_succ h2))

theorem decodeAll_ends (fuel : Nat) (s : Bytes) (term : Term) (h : s.length < fuel) :
    ∃ pre last, decodeAll fuel s term = pre ++ [last] ∧ last.isResp = false ∧ ∀ x ∈ pre, x.isResp = true := by
  induction fuel generalizing s with
  | zero => exact absurd h (Nat.not_lt_zero _)
  | succ fuel ih =>
    rcases hf : feed .initial s with ⟨σ', rest, out⟩
    rw [decodeAll_succ fuel term hf]
    cases hresp : (callItem term σ' rest out).isResp with
    | false => exact ⟨[], _, rfl, hresp, fun _ hx => absurd hx List.not_mem_nil⟩
    | true =>
      obtain ⟨r, rfl⟩ := isResp_callItem hresp
      have hlt := ((feed_leaves hf).2.1 r rfl).2
      obtain ⟨pre, last, h1, h2, h3⟩ := ih rest (Nat.lt_of_lt_of_le hlt (Nat.le_of_lt_succ h))
      refine ⟨_ :: pre, last, by rw [if_pos rfl, h1]; rfl, h2, fun x hx => ?_⟩
      rcases List.mem_cons.mp hx with rfl | hx
      · exact hresp
      · exact h3 x hx

/-! non-vacuity: a response split inside a key, inside the binary header and inside the payload -/
example :
    sessionA 40 0 .initial [] [str "fo", str "o: bar\nbin", str "ary: 3\nA", str "\nB\nOK\nx"] .eof =
    decodeAll 40 (str "foo: bar\nbinary: 3\nA\nB\nOK\nx") .eof :=
  (C02_async 40 [] _ .eof (by unfold NonEmptyChunks
                              repeat rw [str_ofList]
                              decide +kernel)).trans
    (congrArg (decodeAll 40 · .eof) (by repeat rw [str_ofList]
                                        decide +kernel))

/-! A read that fails and delivers nothing is one more way of delivering the stream: when a `receive` call ends in
a read error (time-out, `WouldBlock`, `Interrupted`), the next call, going on from the receive buffer and builder
state it left, returns exactly what one uninterrupted call on the whole script returns. -/

theorem C02_failed_read_invisible_async (k : Nat) (t : Term) (cs1 cs2 : List Bytes) (σ : BState) (buf : Bytes)
    (h : (recvLoopA σ buf cs1 (.ioerr k)).1 = .io k) :
    recvLoopA (recvLoopA σ buf cs1 (.ioerr k)).2.2.2 (recvLoopA σ buf cs1 (.ioerr k)).2.1 cs2 t =
      recvLoopA σ buf (cs1 ++ cs2) t :=
  recvLoopA_resume k t cs2 cs1 σ buf h

theorem C02_failed_read_invisible_sync (k : Nat) (t : Term) (cs1 cs2 : List Bytes) (f1 f2 : Nat) (σ : BState) (b : SBuf)
    (h : (recvLoopS f1 σ b cs1 (.ioerr k)).1 = .io k) :
    ∃ f, recvLoopS f σ b (cs1 ++ cs2) t =
      recvLoopS (f2 + 1) (recvLoopS f1 σ b cs1 (.ioerr k)).2.2.2 (recvLoopS f1 σ b cs1 (.ioerr k)).2.1 cs2 t :=
  recvLoopS_resume k t cs2 f2 f1 cs1 σ b h

/-- non-vacuity: a time-out after `foo: bar\n` was consumed; the resumed call returns the whole frame -/
example : (recvLoopA .initial [] [str "foo: bar\n"] (.ioerr 2)).1 = .io 2 ∧
    (recvLoopA (recvLoopA .initial [] [str "foo: bar\n"] (.ioerr 2)).2.2.2
      (recvLoopA .initial [] [str "foo: bar\n"] (.ioerr 2)).2.1 [str "x: y\nOK\n"] .eof).1 =
      (recvLoopA .initial [] [str "foo: bar\nx: y\nOK\n"] .eof).1 := by
  repeat rw [str_ofList]
  decide +kernel

/-! Any number of failed reads, anywhere: a caller that calls `receive` again after every reported read failure
(`recvRetryA`, `sessionRetryA` in `Mpd/Conn.lean`) gets what the script without the failures gives, per logical
receive and for the whole session, which is therefore `decodeAll` of the bytes the peer sent. -/

theorem C02_failed_reads_invisible_call (more : List Conn.ScriptPiece) (σ : BState) (buf : Bytes) (cs : List Bytes) (t : Term)
    (hio : IoChain t more) :
    (recvRetryA σ buf cs t more).1 = (recvLoopA σ buf (flatScript cs more) (lastTerm t more)).1 ∧
    (recvRetryA σ buf cs t more).2.1 = (recvLoopA σ buf (flatScript cs more) (lastTerm t more)).2.1 ∧
    (recvRetryA σ buf cs t more).2.2.1 = (recvLoopA σ buf (flatScript cs more) (lastTerm t more)).2.2.2 :=
  ⟨(recvRetryA_eq more σ buf cs t hio).1, (recvRetryA_eq more σ buf cs t hio).2.1, (recvRetryA_eq more σ buf cs t hio).2.2.1⟩

theorem C02_failed_reads_invisible_session (fuel : Nat) (cs : List Bytes) (t : Term) (more : List Conn.ScriptPiece)
    (hio : IoChain t more) (hne : NonEmptyChunks (flatScript cs more)) :
    sessionRetryA fuel 0 .initial [] cs t more =
      decodeAll fuel (flatScript cs more).flatten (lastTerm t more) := by
  rw [sessionRetryA_eq fuel 0 .initial [] cs t more hio, C02_async fuel [] _ _ hne, List.nil_append]

/-- non-vacuity: a time-out in the middle of a line, then two failures in a row after a consumed line -/
example :
    sessionRetryA 10 0 .initial [] [str "foo: b"] (.ioerr 2)
        [([str "ar\nx: y\n"], .ioerr 3), ([], .ioerr 2), ([str "OK\nz: 1\nOK\n"], .eof)] =
      decodeAll 10 (str "foo: bar\nx: y\nOK\nz: 1\nOK\n") .eof ∧
    IoChain (.ioerr 2) [([str "ar\nx: y\n"], .ioerr 3), ([], .ioerr 2), ([str "OK\nz: 1\nOK\n"], Term.eof)] := by
  constructor
  · repeat rw [str_ofList]
    decide +kernel
  · exact ⟨⟨2, rfl⟩, ⟨3, rfl⟩, ⟨2, rfl⟩, trivial⟩

theorem C02_failed_reads_invisible_call_blocking (more : List Conn.ScriptPiece) (σ : BState) (b : SBuf)
    (cs : List Bytes) (t : Term) (hio : IoChain t more) (hne : NonEmptyChunks (flatScript cs more)) (hinv : SInv b) :
    ((recvRetryS σ b cs t more).1,
      (recvRetryS σ b cs t more).2.1.data ++
        (flatScript (recvRetryS σ b cs t more).2.2.2.1 (recvRetryS σ b cs t more).2.2.2.2.2).flatten) =
      recvAll σ (b.data ++ (flatScript cs more).flatten) (lastTerm t more) :=
  (recvRetryS_eq more σ b cs t hio hne hinv).1

theorem C02_failed_reads_invisible_session_blocking (fuel : Nat) (b : SBuf) (cs : List Bytes) (t : Term)
    (more : List Conn.ScriptPiece) (hio : IoChain t more) (hne : NonEmptyChunks (flatScript cs more)) (hinv : SInv b) :
    sessionRetryS fuel 0 .initial b cs t more =
      decodeAll fuel (b.data ++ (flatScript cs more).flatten) (lastTerm t more) := by
  induction fuel generalizing b cs t more with
  | zero => rfl
  | succ fuel ih =>
    rcases hr : recvRetryS .initial b cs t more with ⟨it, b', σ', cs', t', more'⟩
    obtain ⟨out, hF, rfl, hne', hinv', hlast, hio'⟩ := recvRetryS_feed hio hne hinv hr
    rw [sessionRetryS_succ fuel 0 hr, decodeAll_succ fuel _ hF]
    refine cons_ite_congr fun hresp => ?_
    obtain ⟨r, rfl⟩ := isResp_callItem hresp
    cases callItem_resp_initial hF (t := t) (u := []) (r := r) rfl
    rw [← hlast]
    exact ih b' cs' t' more' hio' hne' hinv'

/-- non-vacuity (blocking, a 16-byte buffer that has to double): a failure inside a line, two in a row -/
example :
    sessionRetryS 10 0 .initial { cap := 16, data := [] } [str "foo: b"] (.ioerr 2)
        [([str "ar\nx: y\n"], .ioerr 3), ([], .ioerr 2), ([str "OK\nz: 1\nOK\n"], .eof)] =
      decodeAll 10 (str "foo: bar\nx: y\nOK\nz: 1\nOK\n") .eof := by
  repeat rw [str_ofList]
  decide +kernel

end Mpd.C02
