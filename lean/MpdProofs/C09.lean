import MpdProofs.Lemmas.Encode
import MpdProofs.Lemmas.Conn
/-!
# C09 — arbitrary peer bytes never panic or hang the protocol layer

* totality: for ALL byte streams and segmentations, no `receive()` of a session, including calls made after an
  error was returned, ends in the model's `panic` outcome (the partial operations of the Rust: `split_off`,
  `advance`, `truncate`, the payload subtraction);
* termination: every model function is structurally recursive on the script or well-founded on the buffer length
  (`parseComp_strict`), so every call returns after at most one read per remaining (piece of a) chunk plus one.
-/
namespace Mpd.C09
open Mpd.Parser Mpd.Builder Mpd.Conn

theorem callItem_ne_panic {σ σ' : BState} {s rest : Bytes} {out : Out} (hF : feed σ s = (σ', rest, out))
    (t : Term) (u : Bytes) : callItem t σ' u out ≠ .panic := by
  cases out with
  | pending => rcases termItem_cases t σ' u with h | h | ⟨_, _, h⟩ <;> rw [callItem, h] <;> exact Item.noConfusion
  | panic => exact absurd (by rw [hF]) (feed_no_panic σ s)
  | _ => exact Item.noConfusion

theorem recvAll_no_panic (σ : BState) (s : Bytes) (term : Term) : (recvAll σ s term).1 ≠ .panic := by
  rcases hf : feed σ s with ⟨σ', rest, out⟩
  rw [recvAll_eq hf]
  exact callItem_ne_panic hf term rest

theorem panic_not_mem_cons {it : Item} {A B : List Item} (hit : it ≠ .panic) (hA : Item.panic ∉ A)
    (hB : Item.panic ∉ B) : Item.panic ∉ it :: if it.isResp then A else B := by
  rw [List.mem_cons, not_or]
  refine ⟨fun h => hit h.symm, ?_⟩
  split
  · exact hA
  · exact hB

/-- **async**: no call of a session panics, including `extra` calls after the first error -/
theorem C09_async_total (fuel extra : Nat) (σ : BState) (buf : Bytes) (chunks : List Bytes) (term : Term)
    (hne : NonEmptyChunks chunks) : Item.panic ∉ sessionA fuel extra σ buf chunks term := by
  induction fuel generalizing extra σ buf chunks with
  | zero => exact List.not_mem_nil
  | succ fuel ih =>
    rcases hr : recvLoopA σ buf chunks term with ⟨it, buf', cs', σ'⟩
    obtain ⟨out, hF, rfl, hne'⟩ := recvLoopA_feed hne hr
    rw [sessionA_succ fuel extra hr]
    refine panic_not_mem_cons (callItem_ne_panic hF _ _) (ih extra σ' buf' cs' hne') ?_
    cases extra with
    | zero => exact List.not_mem_nil
    | succ e => exact ih e σ' buf' cs' hne'

/-- **blocking**: same; the buffer invariant `total_received < len` is maintained across calls, so
`split_off(total_received)` is always in bounds -/
theorem C09_sync_total (fuel extra : Nat) (σ : BState) (b : SBuf) (chunks : List Bytes) (term : Term)
    (hne : NonEmptyChunks chunks) (hinv : SInv b) : Item.panic ∉ sessionS fuel extra σ b chunks term := by
  induction fuel generalizing extra σ b chunks with
  | zero => exact List.not_mem_nil
  | succ fuel ih =>
    rcases hr : recvLoopS (scriptLen chunks + 1) σ b chunks term with ⟨it, b', cs', σ'⟩
    obtain ⟨out, hF, rfl, _, hne', hinv', _⟩ := recvLoopS_feed hne hinv hr (.inl (Nat.lt_succ_self _))
    rw [sessionS_succ fuel extra hr]
    refine panic_not_mem_cons (callItem_ne_panic hF _ _) (ih extra σ' b' cs' hne' hinv') ?_
    cases extra with
    | zero => exact List.not_mem_nil
    | succ e => exact ih e σ' b' cs' hne' hinv'

/-- what the parser rejects ends the session with the invalid-message error -/
theorem C09_rejected_is_invalid (σ : BState) (buf : Bytes)
    (h : parseComp buf = .error ∨ parseComp buf = .failure) : feed σ buf = (σ, buf, .invalid) :=
  feed_of_reject σ h

/-- the binary payload handed to the frame is exactly the `N` bytes after the header -/
theorem C09_binary_exact (σ : BState) (ds bin tl : Bytes) (hnum : IsNum ds) (hlen : bin.length = digitsVal ds) :
    feed σ (str "binary: " ++ ds ++ [LF] ++ bin ++ [LF] ++ tl) = feed (bstep σ (.binary bin)).1 tl :=
  feed_binary σ ds bin tl hnum hlen

/-! numeric and encoding edges (tests, not the theorem). The kernel pays for every `str` literal it meets
(`str_ofList`), the keywords inside `parseComp` included: they are brought into the goal and unfolded with the input. -/
example : parseComp (str "binary: 18446744073709551616\n") = .failure := by
  unfold parseComp error binaryField binaryPrefix keyValueField
  repeat rw [str_ofList]
  decide +kernel
example : parseComp (str "binary: abc\n") = .failure := by
  unfold parseComp error binaryField binaryPrefix keyValueField
  repeat rw [str_ofList]
  decide +kernel
example : parseComp (str "binary: 18446744073709551615\n") = .incomplete := by
  unfold parseComp error binaryField binaryPrefix keyValueField
  repeat rw [str_ofList]
  decide +kernel
example : parseComp (str "ACK [99999999999999999999@0] {} x\n") = .error := by
  unfold parseComp error binaryField binaryPrefix keyValueField
  repeat rw [str_ofList]
  decide +kernel
example : parseComp (str "foo: " ++ [0xff, 0xfe, LF]) = .error := by
  unfold parseComp error binaryField binaryPrefix keyValueField
  repeat rw [str_ofList]
  decide +kernel
example : parseComp (str "foo" ++ [0] ++ str ": x\n") = .error := by
  unfold parseComp error binaryField binaryPrefix keyValueField
  repeat rw [str_ofList]
  decide +kernel
example : parseComp (str "foo: a" ++ [0] ++ str "b\n") = .ok (.field (str "foo") (str "a" ++ [0] ++ str "b")) [] := by
  unfold parseComp error binaryField binaryPrefix keyValueField
  repeat rw [str_ofList]
  decide +kernel
example : parseComp (str "foo: " ++ [0xed, 0xa0, 0x80, LF]) = .error := by   -- UTF-16 surrogate
  unfold parseComp error binaryField binaryPrefix keyValueField
  repeat rw [str_ofList]
  decide +kernel

end Mpd.C09
