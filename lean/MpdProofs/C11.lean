import Mpd.Filter
import MpdSpec.Tokenizer
import MpdSpec.FilterParse
import MpdProofs.Lemmas.Filter
import MpdProofs.Lemmas.Line
import MpdProofs.Lemmas.Utf8
/-!
# C11 — filter expressions mean on the server what was built on the client

For every filter built from tags, operators, string values, negation and conjunction, the argument sent to
the server, once MPD's request tokenizer (`Spec.Tok`) and filter-expression grammar (`Spec.Filter`) have been
applied to it, denotes the same expression: same tags and operators, same nesting up to associativity of
AND, byte-identical values:
`∀ f, Built f → wordTags f → sent line of `find f` tokenizes to one argument that parses to `mirror f``.

It does not hold for the code as it is: a value containing `"` is rendered as `\\"` (the crate's test
`filter_escaping`), which MPD's tokenizer reads as an escaped backslash followed by the closing quote (known
finding K2).  `C11_partial` is the statement outside K2, `C11_K2_fails` the behaviour on K2.

`wordTags` (every tag name has MPD's `ExpectWord` shape `[A-Za-z][A-Za-z_-]*` and is not one of MPD's five
operator-less filter types) holds for every named `Tag` variant, `Tag::any()` and `file`; hand-built
`Tag::Other` values and `try_from` results starting with `_`/`-` are outside (they cannot name an MPD tag).
-/
namespace Mpd.C11
open Mpd.Filter Spec.Filter Spec.Tok

/-- filters the public API can produce: `Filter::new` (`tag`, `tag_exists`, `tag_absent` are
instances of it), `negate` / `!`, `and` -/
inductive Built : FilterType → Prop
  | new (t : Tag) (op : Operator) (v : Bytes) : Built (Filter.new t op v)
  | negate {f : FilterType} : Built f → Built (Filter.negate f)
  | and {a b : FilterType} : Built a → Built b → Built (Filter.and a b)

theorem Built.tag (t : Tag) (v : Bytes) : Built (Filter.tag t v) := .new t .equal v
theorem Built.tagExists (t : Tag) : Built (Filter.tagExists t) := .new t .notEqual []
theorem Built.tagAbsent (t : Tag) : Built (Filter.tagAbsent t) := .new t .equal []

/-- the children list `Filter::and` takes from one of its operands -/
def operands : FilterType → List FilterType
  | .and inner => inner
  | c => [c]

theorem and_eq (a b : FilterType) : Filter.and a b = .and (operands a ++ operands b) := by
  cases a <;> cases b <;> rfl

theorem operands_wf {a : FilterType} (h : wf a = true) :
    1 ≤ (operands a).length ∧ ∀ f ∈ operands a, wf f = true ∧ isAnd f = false := by
  cases a with
  | tag t op v => simp [operands, wf, isAnd]
  | not f => simpa [operands, isAnd] using h
  | and fs =>
    simp only [wf, Bool.and_eq_true, decide_eq_true_eq, wfList_iff] at h
    exact ⟨by simp only [operands]; omega, h.2⟩

/-- invariant of the public API -/
theorem C11_built_wf {f : FilterType} (h : Built f) : wf f = true := by
  induction h with
  | new t op v => rfl
  | negate _ ih => exact ih
  | and _ _ iha ihb =>
    obtain ⟨la, ha⟩ := operands_wf iha
    obtain ⟨lb, hb⟩ := operands_wf ihb
    rw [and_eq]
    simp only [wf, Bool.and_eq_true, decide_eq_true_eq, wfList_iff, List.length_append, List.mem_append]
    exact ⟨by omega, fun f hf => hf.elim (ha f) (hb f)⟩

/-- the `assert!(inner.len() >= 2)` in `FilterType::render` is unreachable for every filter built through the
public API -/
theorem C11_render_no_panic {f : FilterType} (h : Built f) : ∃ r, Filter.render f = some r :=
  ⟨_, render_eq (C11_built_wf h)⟩

theorem nameOk_find : TokL.NameOk (str "find") := by
  rw [TokL.nameOk_iff]
  repeat rw [str_ofList]
  decide +kernel

/-- **C11 (partial: all filters outside the known-finding class K2).**  For every filter built through the
public API with MPD-readable tag names, whose values are arbitrary byte strings without `"` and without
LF/NUL: rendering does not panic and `add_argument` accepts the argument; MPD's request tokenizer reads the
sent line `find "<…>"` back as the command `find` with exactly one argument, `inner f` (first unescaping
layer); MPD's filter parser turns that argument into exactly `mirror f` (second unescaping layer), consuming
all input. -/
theorem C11_partial (f : FilterType) (hb : Built f) (hw : wordTags f = true) (hk : K2 f = false)
    (hn : hasForbidden f = false) :
    ∃ r, Filter.render f = some r ∧
      Cmd.addRendered (str "find") r = (.ok (str "find" ++ SPACE :: r), str "find" ++ SPACE :: r) ∧
      tokenizeLine (str "find" ++ SPACE :: r) = some (str "find", [inner f]) ∧
      parseFilterTop (inner f) = some (mirror f) := by
  have hwf := C11_built_wf hb
  have henc := CmdsL.Enc.ofQuoted (clean_inner hw hk hn)
  refine ⟨QUOTE :: esc1 (inner f) ++ [QUOTE], ?_, TokL.addRendered_clean _ _ henc.clean, ?_,
    parseFilterTop_inner f hwf hw hk hn⟩
  · rw [Filter.render, renderType_eq f hwf hw hk]
  · have := CmdsL.tokenizeLine_encLine nameOk_find [(_, inner f)] (by simpa using henc)
    simpa [CmdsL.Pairs.rs, CmdsL.Pairs.as] using this

/-- `C11_partial` on the bytes `send` writes -/
theorem C11_partial_wire (f : FilterType) (hb : Built f) (hw : wordTags f = true) (hk : K2 f = false)
    (hn : hasForbidden f = false) :
    ∃ wire, sendFind f = .wrote wire ∧
      tokenizeStream wire = some [some (str "find", [inner f])] ∧
      parseFilterTop (inner f) = some (mirror f) := by
  obtain ⟨r, h1, h2, _, h4⟩ := C11_partial f hb hw hk hn
  have hr : r = QUOTE :: esc1 (inner f) ++ [QUOTE] := by
    rw [Filter.render, renderType_eq f (C11_built_wf hb) hw hk] at h1
    exact (Option.some.inj h1).symm
  subst hr
  have hs := CmdsL.tokenizeStream_encLine nameOk_find [(_, inner f)]
    (by simpa using CmdsL.Enc.ofQuoted (clean_inner hw hk hn))
  refine ⟨Cmd.sendBytes (str "find" ++ SPACE :: (QUOTE :: esc1 (inner f) ++ [QUOTE])), ?_, ?_, h4⟩
  · rw [sendFind, h1]; simp only [h2]
  · simpa [CmdsL.Pairs.rs, CmdsL.Pairs.as] using hs

theorem mirrorList_append (x y : List FilterType) : mirrorList (x ++ y) = mirrorList x ++ mirrorList y := by
  simp [mirrorList_eq_map]

theorem conjunctsList_append (x y : List Expr) : conjunctsList (x ++ y) = conjunctsList x ++ conjunctsList y := by
  induction x with
  | nil => rfl
  | cons e es ih => simp [conjunctsList, ih]

theorem conjuncts_operands (a : FilterType) : conjunctsList (mirrorList (operands a)) = conjuncts (mirror a) := by
  cases a <;> simp [operands, mirror, mirrorList, conjuncts, conjunctsList]

/-- **same nesting up to associativity of AND**: `a.and(b)` denotes an AND node whose flattened conjuncts are
those of `a` followed by those of `b`, which are the flattened conjuncts of the logical conjunction
`AND[a, b]` -/
theorem C11_and_assoc (a b : FilterType) :
    (∃ es, mirror (Filter.and a b) = .and es) ∧
    conjuncts (mirror (Filter.and a b)) = conjuncts (mirror a) ++ conjuncts (mirror b) ∧
    conjuncts (mirror (Filter.and a b)) = conjuncts (.and [mirror a, mirror b]) := by
  have h : conjuncts (mirror (Filter.and a b)) = conjuncts (mirror a) ++ conjuncts (mirror b) := by
    rw [and_eq, mirror, conjuncts, mirrorList_append, conjunctsList_append, conjuncts_operands, conjuncts_operands]
  refine ⟨⟨_, by rw [and_eq, mirror]⟩, h, ?_⟩
  rw [h]; simp [conjuncts, conjunctsList]

/-- `a.and(b).and(c)` and `a.and(b.and(c))` are the same filter -/
theorem C11_and_chain (a b c : FilterType) : Filter.and (Filter.and a b) c = Filter.and a (Filter.and b c) := by
  simp [and_eq, operands]

/-- a sequence of calls of the public API, as a syntax tree -/
inductive Call where
  | new (t : Tag) (op : Operator) (v : Bytes)
  | negate (c : Call)
  | and (a b : Call)

def Call.build : Call → FilterType
  | .new t op v => Filter.new t op v
  | .negate c => Filter.negate c.build
  | .and a b => Filter.and a.build b.build

/-- what the calls mean: `a.and(b)` is the binary conjunction of the two meanings, no flattening -/
def Call.denote : Call → Expr
  | .new t op v => .tag t.name (specOp op) v
  | .negate c => .not c.denote
  | .and a b => .and [a.denote, b.denote]

theorem Call.built (c : Call) : Built c.build := by
  induction c with
  | new t op v => exact .new t op v
  | negate c ih => exact .negate ih
  | and a b iha ihb => exact .and iha ihb

theorem normConj_append (x y : List Expr) : Expr.normConj (x ++ y) = Expr.normConj x ++ Expr.normConj y := by
  induction x with
  | nil => rfl
  | cons e es ih => cases e <;> simp [Expr.normConj, ih]

/-- the conjuncts an expression in normal form contributes to an enclosing AND -/
def unAnd : Expr → List Expr
  | .and es => es
  | e => [e]

theorem normConj_single (e : Expr) : Expr.normConj [e] = unAnd e.norm := by
  cases e <;> simp [Expr.normConj, Expr.norm, unAnd]

theorem normConj_operands (a : FilterType) : Expr.normConj (mirrorList (operands a)) = unAnd (mirror a).norm := by
  cases a with
  | tag t op v => simp [operands, mirrorList, normConj_single]
  | not f => simp [operands, mirrorList, normConj_single]
  | and fs => simp [operands, mirror, Expr.norm, unAnd]

/-- **same nesting up to associativity of AND, for whole trees**: for every tree of API calls the filter that
is built denotes the logical expression of the calls once nested ANDs are flattened on both sides
(`Expr.norm`) -/
theorem C11_denotes (c : Call) : (mirror c.build).norm = c.denote.norm := by
  induction c with
  | new t op v => rfl
  | negate c ih => simp [Call.build, Call.denote, Filter.negate, mirror, Expr.norm, ih]
  | and a b iha ihb =>
    have h2 : Expr.normConj [a.denote, b.denote] = Expr.normConj [a.denote] ++ Expr.normConj [b.denote] :=
      normConj_append [a.denote] [b.denote]
    simp only [Call.build, Call.denote, and_eq, mirror, Expr.norm, mirrorList_append, normConj_append,
      normConj_operands, iha, ihb, h2, normConj_single]

/-- `Filter::tag_exists(t)` reaches the server as `(t != "")` -/
theorem C11_tag_exists (t : Tag) : mirror (Filter.tagExists t) = .tag t.name .notEqual [] := rfl
/-- `Filter::tag_absent(t)` reaches the server as `(t == "")` -/
theorem C11_tag_absent (t : Tag) : mirror (Filter.tagAbsent t) = .tag t.name .equal [] := rfl
/-- `Filter::tag(t, v)` reaches the server as `(t == "v")` -/
theorem C11_tag_eq (t : Tag) (v : Bytes) : mirror (Filter.tag t v) = .tag t.name .equal v := rfl

/-- `C11_partial_wire` for the shorthands, for every MPD-readable tag name -/
theorem C11_shorthands (t : Tag) (hw : isWordTag t.name = true) :
    (∃ wire, sendFind (Filter.tagExists t) = .wrote wire ∧
      ∃ arg, tokenizeStream wire = some [some (str "find", [arg])] ∧
        parseFilterTop arg = some (.tag t.name .notEqual [])) ∧
    (∃ wire, sendFind (Filter.tagAbsent t) = .wrote wire ∧
      ∃ arg, tokenizeStream wire = some [some (str "find", [arg])] ∧
        parseFilterTop arg = some (.tag t.name .equal [])) := by
  have hword : isWord t.name = true := by
    simp only [isWordTag, Bool.and_eq_true] at hw; exact hw.1
  have hname : t.name.any isForbidden = false := by
    rw [List.any_eq_false]
    intro b hb hf
    have := isWord_tagChars hword b hb
    simp only [isForbidden, Bool.or_eq_true, beq_iff_eq] at hf
    rcases hf with rfl | rfl <;> (revert this; decide)
  -- both shorthands are `Filter::new` with the empty value
  have key : ∀ op : Operator, ∃ wire, sendFind (Filter.new t op []) = .wrote wire ∧
      ∃ arg, tokenizeStream wire = some [some (str "find", [arg])] ∧
        parseFilterTop arg = some (.tag t.name (specOp op) []) := by
    intro op
    obtain ⟨w, h1, h2, h3⟩ := C11_partial_wire (Filter.new t op []) (.new t op [])
      (by simp [wordTags, leaves, Filter.new, hw]) (by simp [K2, leaves, Filter.new])
      (by simp [hasForbidden, leaves, Filter.new, hname])
    exact ⟨w, h1, _, h2, h3⟩
  exact ⟨key .notEqual, key .equal⟩

theorem C11_named_wordTag (v : TagV) : isWordTag (Tag.named v).name = true := by
  simp only [isWordTag, Mpd.Filter.specialTypes]
  repeat rw [str_ofList]
  cases v <;> (simp only [Tag.name, TagV.name, TagV.nameStr]; rw [str_ofList]; decide +kernel)

theorem C11_any_file_wordTag : isWordTag (Tag.other (str "any")).name = true ∧
    isWordTag (Tag.other (str "file")).name = true := by
  simp only [isWordTag, Mpd.Filter.specialTypes]
  repeat rw [str_ofList]
  decide +kernel

/-- correctly escaped text followed by a bare double quote (the mis-escaped quote `\\"` is an escaped
backslash, then a bare quote) -/
def Splits (r : Bytes) : Prop := ∃ A B, r = esc1 A ++ QUOTE :: B

theorem Splits.esc1_append (p : Bytes) {r : Bytes} (h : Splits r) : Splits (esc1 p ++ r) := by
  obtain ⟨A, B, rfl⟩ := h
  exact ⟨p ++ A, B, by rw [Filter.esc1_append, List.append_assoc]⟩

theorem Splits.append {r : Bytes} (h : Splits r) (s : Bytes) : Splits (r ++ s) := by
  obtain ⟨A, B, rfl⟩ := h
  exact ⟨A, B ++ s, by simp⟩

/-- `NextString` closes such a string at the bare quote, before the end of the line -/
theorem Splits.early {r : Bytes} (h : Splits r) {c : UInt8} (hc : Spec.Tok.isWs c = false) {v rest : Bytes}
    (hs : stringBody (r ++ [c]) = some (v, rest)) : rest ≠ [] := by
  obtain ⟨A, B, rfl⟩ := h
  rw [List.append_assoc, Filter.esc1_eq_flatMap] at hs
  exact TokL.stringBody_early _ (by decide) (by decide) A B hc hs

theorem splits_flatMap (L : List Lexeme) (hw : ∀ t op v, Lexeme.leaf (t, op, v) ∈ L → isWord t.name = true)
    (hk : ∃ t op v, Lexeme.leaf (t, op, v) ∈ L ∧ QUOTE ∈ v) :
    Splits (L.flatMap (Lexeme.emit [BSLASH, QUOTE] escapeFilterValue)) := by
  induction L with
  | nil => simp at hk
  | cons p L ih =>
    rw [List.flatMap_cons]
    by_cases hp : ∃ t op v, p = .leaf (t, op, v) ∧ QUOTE ∈ v
    · obtain ⟨t, op, v, rfl, hq⟩ := hp
      obtain ⟨a, b, rfl, ha⟩ := List.eq_append_cons_of_mem hq
      have hlp : Filter.LPAREN ≠ BSLASH ∧ Filter.LPAREN ≠ QUOTE := by decide
      have hsp : SPACE ≠ BSLASH ∧ SPACE ≠ QUOTE := by decide
      have hword := hw t op (a ++ QUOTE :: b) (List.mem_cons_self ..)
      refine Splits.append ⟨Filter.LPAREN :: t.name ++ SPACE :: op.asStr ++ SPACE :: QUOTE :: escV a ++ [BSLASH],
        escapeFilterValue b ++ [BSLASH, QUOTE, Filter.RPAREN], ?_⟩ _
      simp only [Lexeme.emit, escapeFilterValue_quote ha, esc1_append, esc1_cons_plain hlp.1 hlp.2,
        esc1_cons_plain hsp.1 hsp.2, esc1_cons_quote, esc1_id (isWord_plain hword), esc1_asStr]
      simp [esc1]
    · rw [p.emit_esc1 fun t op v e => ⟨hw t op v (by simp [e]), fun hq => hp ⟨t, op, v, e, hq⟩⟩]
      refine Splits.esc1_append _ (ih (fun t op v h => hw t op v (by simp [h])) ?_)
      obtain ⟨t, op, v, hm, hq⟩ := hk
      rcases List.mem_cons.mp hm with rfl | hm
      · exact absurd ⟨t, op, v, rfl, hq⟩ hp
      · exact ⟨t, op, v, hm, hq⟩

theorem splits_rend (f : FilterType) (hw : wordTags f = true) (hk : K2 f = true) : Splits (rend f) := by
  refine splits_flatMap _ (fun t op v h => isWord_of_wordTags hw h) ?_
  obtain ⟨⟨t, op, v⟩, hl, hq⟩ := List.any_eq_true.mp hk
  exact ⟨t, op, v, mem_leaves_iff.mp hl, by simpa using hq⟩

theorem params_ne_nil (n : Nat) {rest : Bytes} (h : rest ≠ []) :
    params n rest = none ∨ ∃ a as, params n rest = some (a :: as) := by
  obtain ⟨b, bs, rfl⟩ := List.exists_cons_of_ne_nil h
  cases n with
  | zero => exact .inl rfl
  | succ n =>
    rw [TokL.params_cons]
    cases nextParam (b :: bs) with
    | none => exact .inl rfl
    | some p => cases hp : params n p.2 <;> simp [hp]

/-- a request with one quoted argument whose string MPD closes before the end of the line is rejected or has
at least two arguments -/
theorem tokenizeLine_early {n e : Bytes} (hn : TokL.NameOk n) (h0 : (0 : UInt8) ∉ e)
    (hearly : ∀ v rest, stringBody (e ++ [QUOTE]) = some (v, rest) → rest ≠ []) :
    tokenizeLine (n ++ SPACE :: (QUOTE :: e ++ [QUOTE])) = none ∨
      ∃ a b rest, tokenizeLine (n ++ SPACE :: (QUOTE :: e ++ [QUOTE])) = some (n, a :: b :: rest) := by
  have ht := TokL.tokenizeLine_pieces hn (rs := [QUOTE :: e ++ [QUOTE]]) (by simpa using TokL.Piece.quoted h0)
  simp only [TokL.args_cons, TokL.args_nil, List.append_nil, List.tail_cons, List.cons_append] at ht
  rw [List.cons_append, ht, TokL.params_cons]
  simp only [nextParam, beq_self_eq_true, if_true]
  cases hs : stringBody (e ++ [QUOTE]) with
  | none => exact .inl rfl
  | some p =>
    rcases params_ne_nil (e.length + 1 + 1) (hearly p.1 p.2 hs) with h | ⟨b, as, h⟩
    · exact .inl (by simp [h])
    · exact .inr ⟨p.1, b, as, by simp [h]⟩

/-- **C11 fails on all of K2** (known finding; the rendering is what the crate's test `filter_escaping`
demands).  For every filter built through the public API with MPD-readable tags in which some value contains
a double quote: rendering and `add_argument` succeed, and MPD's tokenizer closes the quoted argument at the
first such `"`.  The server either rejects the request line or sees at least two arguments, never the
one-argument `find` that was built. -/
theorem C11_K2_fails (f : FilterType) (hb : Built f) (hw : wordTags f = true) (hn : hasForbidden f = false)
    (hk : K2 f = true) :
    ∃ r, Filter.render f = some r ∧
      Cmd.addRendered (str "find") r = (.ok (str "find" ++ SPACE :: r), str "find" ++ SPACE :: r) ∧
      (tokenizeLine (str "find" ++ SPACE :: r) = none ∨
        ∃ a b rest, tokenizeLine (str "find" ++ SPACE :: r) = some (str "find", a :: b :: rest)) := by
  have hwf := C11_built_wf hb
  have hc := (clean_render_iff f).mpr hn
  refine ⟨QUOTE :: rend f ++ [QUOTE], render_eq hwf, TokL.addRendered_clean _ _ hc, ?_⟩
  exact tokenizeLine_early nameOk_find ((clean_rend_iff f).mpr hn).2 fun _ _ hs => (splits_rend f hw hk).early (by decide) hs

/-- on the bytes `send` writes: the server never sees a one-argument `find` -/
theorem C11_K2_never_mirror (f : FilterType) (hb : Built f) (hw : wordTags f = true)
    (hn : hasForbidden f = false) (hk : K2 f = true) :
    ∃ wire, sendFind f = .wrote wire ∧
      ¬ ∃ arg, tokenizeStream wire = some [some (str "find", [arg])] := by
  obtain ⟨r, h1, h2, h3⟩ := C11_K2_fails f hb hw hn hk
  refine ⟨Cmd.sendBytes (str "find" ++ SPACE :: r), by rw [sendFind, h1]; simp only [h2], ?_⟩
  have hc : TokL.Clean r :=
    Option.some.inj ((render_eq (C11_built_wf hb)).symm.trans h1) ▸ (clean_render_iff f).mpr hn
  have hlf : LF ∉ str "find" ++ SPACE :: r := by
    simp only [List.mem_append, List.mem_cons, not_or]
    exact ⟨nameOk_find.clean.1, by decide, hc.1⟩
  rw [TokL.tokenizeStream_sendBytes _ hlf]
  rintro ⟨arg, harg⟩
  simp only [Option.some.injEq, List.cons.injEq, and_true] at harg
  rcases h3 with h | ⟨a, b, rest, h⟩
  · rw [h] at harg; simp at harg
  · rw [h] at harg; simp at harg

/-- **LF / NUL**: if a value (or a hand-built tag name) contains a line feed or a NUL byte,
`Command::add_argument` rejects the filter, the command buffer is left as it was and nothing reaches the
server (`Command::argument`, the chaining variant, panics instead, as documented) -/
theorem C11_lf_nul_rejected (f : FilterType) (hb : Built f) (hn : hasForbidden f = true) :
    ∃ r i, Filter.render f = some r ∧
      Cmd.addRendered (str "find") r = (.error (.invalidChar i), str "find") ∧
      sendFind f = .rejected := by
  have h1 := render_eq (C11_built_wf hb)
  obtain ⟨i, h2⟩ := TokL.addRendered_unclean (str "find") _ fun hc => by
    rw [clean_render_iff f, hn] at hc
    cases hc
  exact ⟨_, i, h1, h2, by rw [sendFind, h1]; simp only [h2]⟩

/-- NOT of an AND of three (built as a chain, so flattening is exercised) AND a fourth node; values with
backslashes, single quotes, parentheses, ` AND `, blanks, empty, non-ASCII -/
def exBig : FilterType :=
  Filter.and
    (Filter.negate
      (Filter.and
        (Filter.and (Filter.new (.named .Artist) .contain (str "a\\b 'c' (d) AND e\\"))
          (Filter.tagExists (.named .Album)))
        (Filter.new (.other (str "any")) .notMatch [0xc3, 0xa9, 0x20, 0xe6, 0x97, 0xa5])))
    (Filter.tag (.named .Title) (str "  \\\\ \\' ) AND ( "))

example : Built exBig :=
  .and (.negate (.and (.and (.new _ _ _) (Built.tagExists _)) (.new _ _ _))) (Built.tag _ _)
example : wordTags exBig = true ∧ K2 exBig = false ∧ hasForbidden exBig = false := by
  unfold exBig
  simp only [wordTags, isWordTag, Mpd.Filter.specialTypes]
  repeat rw [str_ofList]
  decide +kernel
/-- the conclusion of `C11_partial` computed: model rendering → specification tokenizer → specification
filter parser gives the mirror -/
example : (match sendFind exBig with
    | .wrote w =>
      match tokenizeStream w with
      | some [some (_, [arg])] => (parseFilterTop arg).map (Expr.beq (mirror exBig))
      | _ => none
    | _ => none) = some true := by decide +kernel
example : exBig = (Call.and (.negate (.and (.and (.new (.named .Artist) .contain (str "a\\b 'c' (d) AND e\\"))
    (.new (.named .Album) .notEqual [])) (.new (.other (str "any")) .notMatch [0xc3, 0xa9, 0x20, 0xe6, 0x97, 0xa5])))
    (.new (.named .Title) .equal (str "  \\\\ \\' ) AND ( "))).build := rfl
example : mirror exBig = .and [.not (.and [.tag (str "Artist") .contain (str "a\\b 'c' (d) AND e\\"),
    .tag (str "Album") .notEqual [], .tag (str "any") .notMatches [0xc3, 0xa9, 0x20, 0xe6, 0x97, 0xa5]]),
    .tag (str "Title") .equal (str "  \\\\ \\' ) AND ( ")] := rfl

/-- the repo's own test vectors (`filter_and_multiple`, `filter_not`, `filter_other_operator`) -/
example : Filter.render (Filter.and (Filter.and (Filter.tag (.named .Artist) (str "hello"))
    (Filter.tag (.named .Album) (str "world"))) (Filter.tag (.named .Title) (str "foo"))) =
    some (str "\"((Artist == \\\"hello\\\") AND (Album == \\\"world\\\") AND (Title == \\\"foo\\\"))\"") := by
  repeat rw [str_ofList]
  decide +kernel
example : Filter.render (Filter.negate (Filter.tag (.named .Artist) (str "hello"))) =
    some (str "\"(!(Artist == \\\"hello\\\"))\"") := by
  repeat rw [str_ofList]
  decide +kernel
example : Filter.render (Filter.new (.named .Artist) .contain (str "mep mep")) =
    some (str "\"(Artist contains \\\"mep mep\\\")\"") := by
  repeat rw [str_ofList]
  decide +kernel
/-- F9: a backslash in a value is written as four backslashes -/
example : Filter.render (Filter.tag (.named .Artist) (str "a\\b")) =
    some (str "\"(Artist == \\\"a\\\\\\\\b\\\")\"") := by
  repeat rw [str_ofList]
  decide +kernel

/-- K2: the rendering the repo's test `filter_escaping` demands; then the value `foo"bar` -/
example : Filter.render (Filter.tag (.named .Artist) (str "foo's bar\"")) =
    some (str "\"(Artist == \\\"foo's bar\\\\\"\\\")\"") := by
  repeat rw [str_ofList]
  decide +kernel
def exK2 : FilterType := Filter.tag (.named .Artist) (str "foo\"bar")
example : Built exK2 ∧ wordTags exK2 = true ∧ hasForbidden exK2 = false ∧ K2 exK2 = true := by
  refine ⟨Built.tag _ _, ?_⟩
  simp only [wordTags, isWordTag, Mpd.Filter.specialTypes]
  repeat rw [str_ofList]
  decide +kernel
example : sendFind exK2 = .wrote (str "find \"(Artist == \\\"foo\\\\\"bar\\\")\"\n") := by
  repeat rw [str_ofList]
  decide +kernel
/-- MPD rejects that request line ("Space expected after closing '\"'") -/
example : tokenizeStream (str "find \"(Artist == \\\"foo\\\\\"bar\\\")\"\n") = some [none] := by
  repeat rw [str_ofList]
  decide +kernel
/-- with three backslashes before the quote the server would read the value back -/
example : tokenizeStream (str "find \"(Artist == \\\"foo\\\\\\\"bar\\\")\"\n") =
    some [some (str "find", [str "(Artist == \"foo\\\"bar\")"])] := by
  repeat rw [str_ofList]
  decide +kernel
example : (parseFilterTop (str "(Artist == \"foo\\\"bar\")")).map
    (Expr.beq (.tag (str "Artist") .equal (str "foo\"bar"))) = some true := by
  repeat rw [str_ofList]
  decide +kernel
/-- a K2 value followed by a blank: the tokenizer accepts the early close and then fails on the rest -/
example : tokenizeStream (match sendFind (Filter.tag (.named .Artist) (str "a\" b")) with
    | .wrote w => w | _ => []) = some [none] := by decide +kernel

example : sendFind (Filter.tag (.named .Artist) (str "a\nb")) = .rejected := by decide +kernel
example : sendFind (Filter.negate (Filter.tag (.named .Artist) [97, 0])) = .rejected := by decide +kernel
example : Built (Filter.tag (.named .Artist) (str "a\nb")) ∧
    hasForbidden (Filter.tag (.named .Artist) (str "a\nb")) = true := ⟨Built.tag _ _, by decide +kernel⟩

/-- the `assert!` branch exists in the model (hand-made values the public API cannot build) -/
example : Filter.render (.and [Filter.tag (.named .Artist) (str "x")]) = none := by decide +kernel
example : Filter.render (.and []) = none := by decide +kernel
example : wf (.and [Filter.tag (.named .Artist) (str "x")]) = false := by decide +kernel

/-- tags outside `wordTags`: MPD's special filter types and non-words -/
example : isWordTag (str "base") = false ∧ isWordTag (str "AudioFormat") = false ∧
    isWordTag (str "_foo") = false ∧ isWordTag (str "a b") = false ∧ isWordTag (str "MUSICBRAINZ_WORKID") = true ∧
    isWordTag (str "modified-since") = false ∧ isWordTag (str "x-y_z") = true := by
  simp only [isWordTag, Mpd.Filter.specialTypes]
  repeat rw [str_ofList]
  decide +kernel

/-- `escape_filter_value` uses `str::replace` on chars: the bytewise model agrees on every string -/
theorem C11_value_escape_is_charwise (cs : List Nat) (h : ∀ c ∈ cs, Utf8.isScalar c = true) :
    escapeFilterValue (Utf8.encodeStr cs) = Utf8.encodeStr (Utf8.escapeFilterValueC cs) :=
  Utf8.escapeFilterValue_encode cs (Utf8.chars_of_scalar cs h)

end Mpd.C11
