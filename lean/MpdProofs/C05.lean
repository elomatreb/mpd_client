import MpdProofs.Lemmas.Skeleton
import MpdProofs.Lemmas.StreamRun
import MpdProofs.Lemmas.NoidleOnly
/-!
# C05 — the client's output is always a legal MPD session (idle/noidle discipline)

Message level, ALL schedules (closed system of `Lemmas/Skeleton.lean`): the server never reads anything but `noidle`
while it waits in idle (`C05_legal`), at most one request is outstanding, at most one reply is in flight, and every
reachable shape is one of those listed in `Skel`, including the race in which the server answers `idle` spontaneously
at the moment the client sends `noidle` (the stale `noidle` is ignored by the server, the client consumes exactly one
reply either way).

Byte level, ALL runs of the task model (from `Loop.run_decodes`): the reply-producing lines written so far
(`password`, `idle`, requests, classified by call site) are, in order, the consumers of the responses consumed so
far, followed by at most ONE line whose reply is still awaited. Hence a request (or a new `idle`) is written only
after the reply to the previous `idle` has been consumed, i.e. after the server has left its idle state.

PARTIAL: that the server leaves idle exactly when it sends the idle reply, and ignores a stale `noidle`, is the server
side (`Spec.Server`), checked per trace by the correspondence run (oracle = `Spec.Server` fed with the
implementation's own writes), not composed with the client in one theorem.
-/
namespace Mpd.C05
open Mpd.Skeleton

theorem C05_legal (as : List Act) : (as.foldl step {}).viol = false := (reach_all as).1.1
theorem C05_shapes (as : List Act) : Skel (as.foldl step {}) := (reach_all as).1
theorem C05_one_outstanding (as : List Act) :
    ((as.foldl step {}).c2s.filter fun l => match l with | .req _ => true | _ => false).length ≤ 1 :=
  (reach_all as).1.wires.2
theorem C05_one_reply (as : List Act) : (as.foldl step {}).s2c.length ≤ 1 := (reach_all as).1.wires.1

/-- after a reply, if no request arrives before the timer fires, `idle` is issued again -/
theorem C05_reidle (s : Sys) (h : s.pc = .waitNext) :
    (step s .tick).pc = .idling ∧ (step s .tick).c2s = s.c2s ++ [.idle] := by
  simp [step, h]

/-- **byte level, all runs**: at most one reply-producing line outstanding -/
theorem C05_byte_one_outstanding (s0 s : Loop.St) (D : Bytes) (h0 : Loop.AfterGreeting s0) (hr : Loop.Run s0 s D) :
    Loop.Terminal s ∨ ∃ cs : List (Loop.Consumer × Builder.Response),
      (∀ q, Loop.Decodes .initial (D ++ q) (cs.map (·.2)) (Loop.future s q)) ∧
      Loop.replyWrites s.obs = cs.map (·.1) ++ Loop.outstanding s.pc ∧ (Loop.outstanding s.pc).length ≤ 1 :=
  Loop.one_outstanding s0 s D h0 hr

/-- per step: silent steps write exactly what they additionally wait for; consuming steps waited for exactly one reply
and write exactly what they wait for next -/
theorem C05_step_writes (s s' : Loop.St) (rf : Bool) (hc : s.pc ≠ .connecting) (h : Loop.step s rf = some s') :
    Loop.Effect s s' := Loop.step_effect s s' rf hc h

/-- **`noidle` only while idling** (byte level, every step): a step from `idling` (where, by `C05_byte_one_outstanding`,
the reply to `idle` is the outstanding one) writes at most one `noidle`, a step from any other program point none
(`nn` counts the `noidle` writes of the step's contribution `e` to the log) -/
theorem C05_noidle_only_while_idling (s s' : Loop.St) (rf : Bool) (hc : s.pc ≠ .connecting)
    (h : Loop.step s rf = some s') :
    ∃ e, s'.obs = s.obs ++ e ∧ Loop.nn e ≤ (match s.pc with | .idling _ => 1 | _ => 0) :=
  Loop.step_noidle s s' rf hc h

end Mpd.C05
