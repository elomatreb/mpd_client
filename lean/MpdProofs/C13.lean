import Mpd.Command
import MpdSpec.Tokenizer
import MpdProofs.C07
/-!
# C13 — command lists are framed as one batch (framing half)

The bytes of a `CommandList` built through `new` / `add` / `command` / `extend` (the typed-pairing half is in
`C13Pair.lean`): `built` is the vector after any sequence of calls, and the rest is C07 on it.
-/
namespace Mpd.C13
open Mpd.Cmd Spec.Tok Mpd.C07

/-- the vector a `CommandList` holds after `new first` and the operations `ops` -/
def built (first : Bytes) (ops : List ListOp) : List Bytes := ops.foldl ListOp.apply (listNew first)

theorem foldl_apply (l : List Bytes) (ops : List ListOp) :
    ops.foldl ListOp.apply l = l ++ ops.flatMap ListOp.cmds := by
  induction ops generalizing l with
  | nil => simp
  | cons o os ih =>
    rw [List.foldl_cons, ih]
    cases o <;> simp [ListOp.apply, ListOp.cmds, listAdd, listExtend]

/-- commands are kept in call order, after the first; nothing is dropped or duplicated -/
theorem C13_built (first : Bytes) (ops : List ListOp) :
    built first ops = first :: ops.flatMap ListOp.cmds := by
  simp [built, foldl_apply, listNew]

/-- what `send_list` writes for a list built through `new` / `add` / `command` / `extend` splits into the bare
command if it holds one, into the begin/end block around its commands otherwise -/
theorem C13_frame (first : Bytes) (ops : List ListOp)
    (h : ∀ c ∈ built first ops, Reachable c) :
    splitLines (listRender (built first ops)) =
      some (if (built first ops).length = 1 then [first]
            else BEGIN_LINE :: built first ops ++ [END_LINE]) := by
  rw [splitLines_listRender _ fun c hc => (C07_oneline (h c hc)).1, C13_built]
  cases ops.flatMap ListOp.cmds <;> simp

/-- N ≥ 2: one `command_list_ok_begin … command_list_end` block holding the N lines in order -/
theorem C13_frame_many (cs : List Bytes) (h : ∀ c ∈ cs, Reachable c) (hN : 2 ≤ cs.length) :
    splitLines (listRender cs) = some (BEGIN_LINE :: cs ++ [END_LINE]) := by
  rw [splitLines_listRender _ fun c hc => (C07_oneline (h c hc)).1, if_neg (by omega)]

/-- N = 1: the bare command -/
theorem C13_frame_one (c : Bytes) (h : Reachable c) :
    splitLines (listRender (listNew c)) = some [c] :=
  splitLines_listRender [c] fun x hx => by
    rw [List.mem_singleton.mp hx]; exact (C07_oneline h).1

/-- one block: none of the N lines between begin and end can itself be read as a `command_list…` request -/
theorem C13_one_block (first : Bytes) (ops : List ListOp)
    (h : ∀ c ∈ built first ops, Reachable c) :
    ∀ c ∈ built first ops, ∀ w as, tokenizeLine c = some (w, as) →
      startsWith w (str "command_list") = false :=
  C07_list_no_framing_inside _ h

example :
    built (str "status") [.add (str "play 1"), .extend [str "stop", str "next"], .command (str "ping"),
      .extend []] = [str "status", str "play 1", str "stop", str "next", str "ping"] := by decide +kernel

example : listRender (built (str "status") [.extend []]) = str "status\n" := by decide +kernel

example : listRender (built (str "status") [.command (str "ping")]) =
    str "command_list_ok_begin\nstatus\nping\ncommand_list_end\n" := by
  unfold listRender LIST_BEGIN LIST_END
  repeat rw [str_ofList]
  decide +kernel

end Mpd.C13
