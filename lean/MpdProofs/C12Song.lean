import MpdProofs.Lemmas.Song
/-!
# C12 (song half) — converting any reply into the typed response of a song-returning command never panics

The model has exactly two partial operations in `responses/song.rs`:
`Tag::try_from(tag).unwrap()` (`handle_song_field`) and `assert!(!self.url.is_empty())` (`into_song`).
The accessors of `Song` contain none (slice patterns, `unwrap_or`): in the model they are total
functions returning plain values. The `assert!` is never reached: `finish` tests the URL first
(`C14.finish_eq`) and `handle_song_field` converts only a builder whose URL is non-empty
(`C14.field_entry`); what remains is the `unwrap`.

The theorems quantify over every frame whose keys are non-empty strings over `Spec.fieldNameChar`,
the byte class the protocol parser accepts in field names. That such a key is an acceptable tag is
the cross-module fact `C20.tryFrom_ok_of_fieldName`: were the parser's alphabet widened beyond
`Tag::try_from`'s, `C12_song_total` would break, and `C12_song_field_panic_iff` says exactly which
replies would then panic.
-/
namespace Mpd.C12
open Mpd.Typed Mpd.SongLemmas Mpd.C14

/-- exact characterisation of the panicking field: a song is in progress, the key is neither an entry
name nor one of the eight attribute names, and `Tag::try_from` rejects it -/
theorem C12_song_field_panic_iff (ts : Bytes → Bool) (b : Builder) (k v : Bytes) :
    b.field ts k v = .panic ↔
      b.url ≠ [] ∧ isStartField k = false ∧ Spec.isAttrKey k = false ∧ ∀ t, Tag.tryFrom k ≠ .ok t := by
  by_cases hu : b.url = []
  · rw [field_idle ts b k v hu, Builder.handleStartField]
    simp only [hu, ne_eq, not_true_eq_false, false_and, iff_false]
    split
    · simp [Outcome.map, Outcome.bind]
    · split <;> simp [Outcome.map, Outcome.bind]
  cases hs : isStartField k with
  | true => simp [field_entry ts b k v hu hs]
  | false =>
    have hl := handleSongField_line ts b k v hs
    rw [field_busy ts b k v hu]
    cases hr : b.handleSongField ts k v with
    | panic => simpa [hr, hu] using hl
    | terr => simp [hr] at hl; simp [hl]
    | ok r =>
      simp only [hr] at hl
      refine ⟨nofun, fun ⟨_, _, ha, hno⟩ => ?_⟩
      rw [if_neg (by simp [ha])] at hl
      obtain ⟨_, t, ht, _⟩ := hl
      exact absurd ht (hno t)

theorem run_ne_panic (ts : Bytes → Bool) (fs : List (Bytes × Bytes))
    (h : ∀ kv ∈ fs, Spec.wfFieldName kv.1 = true) (b : Builder) : run ts b fs ≠ .panic := by
  fun_induction run ts b fs with
  -- no field left (1), the rest of the fields gives a value (2) or a typed error (3), or this field
  -- gives a typed error (5)
  | case1 | case2 | case3 | case5 => nofun
  -- the rest of the fields panics
  | case4 b k v rest b1 o hf hr ih => exact absurd hr (ih fun kv hkv => h kv (by simp [hkv]))
  -- this field panics: then its key is one `Tag::try_from` rejects, and the parser produces none
  | case6 b k v rest hf =>
    obtain ⟨t, ht⟩ := tryFrom_ok_of_wfKey k (h (k, v) (by simp))
    exact fun _ => ((C12_song_field_panic_iff ts b k v).mp hf).2.2.2 t ht

/-- **C12, song decoders**: for every frame the protocol parser can produce (any number of fields,
any values, any binary part), none of the three song decoders panics -/
theorem C12_song_decoders_total (ts : Bytes → Bool) (f : AFrame)
    (h : ∀ kv ∈ f.fields, Spec.wfFieldName kv.1 = true) :
    SongInQueue.fromFrameMulti ts f ≠ .panic ∧ Song.fromFrameMulti ts f ≠ .panic ∧
    SongInQueue.fromFrameSingle ts f ≠ .panic := by
  have hr := run_ne_panic ts f.fields h {}
  obtain ⟨h1, h2, h3⟩ := decoders_eq_run ts f
  rw [h1, h2, h3]
  simp only [ne_eq, Outcome.map_eq_panic_iff]
  exact ⟨hr, hr, hr⟩

/-- **C12, song-returning commands**: `Queue`, `QueueRange`, `CurrentSong`, `Find`, `GetPlaylist`,
`ListAllIn`, `Add`: `response` yields a value or a typed-response error, never a panic -/
theorem C12_song_total (ts : Bytes → Bool) (f : AFrame)
    (h : ∀ kv ∈ f.fields, Spec.wfFieldName kv.1 = true) (c : SongCmd) :
    response ts c f ≠ .panic := by
  obtain ⟨h1, h2, h3⟩ := C12_song_decoders_total ts f h
  cases c with
  | queue | queuerange => exact mt Outcome.map_eq_panic_iff.mp h1
  | currentsong => exact mt Outcome.map_eq_panic_iff.mp h3
  | find | getplaylist | listallinfo => exact mt Outcome.map_eq_panic_iff.mp h2
  | addid =>
    -- `value` fails only with a typed-response error
    refine mt Outcome.map_eq_panic_iff.mp ?_
    unfold value
    split
    · nofun
    · exact Outcome.ofOption_ne_panic _

/-! ## keys outside the parser's alphabet

Such a frame cannot be obtained through the public API (the parser rejects the line as an invalid
message), but the decoder itself is NOT total on them: with a song in progress, a key `Tag::try_from`
rejects makes the `unwrap` in `handle_song_field` panic. -/

example : response (fun _ => true) .find ⟨[(str "file", str "a"), (str "Track1", str "x")], none⟩ = .panic := by
  decide +kernel
example : response (fun _ => true) .queue ⟨[(str "file", str "a"), ([], str "x")], none⟩ = .panic := by
  decide +kernel
example : response (fun _ => true) .currentsong ⟨[(str "file", str "a"), (str "a b", str "x")], none⟩ = .panic := by
  decide +kernel
/-- the same key while no song is in progress is an ordinary typed-response error -/
example : response (fun _ => true) .find ⟨[(str "Track1", str "x")], none⟩ = .terr := by decide +kernel

/-! ## non-vacuity: frames within the alphabet that exercise the guarded operations -/
example : ∀ kv ∈ [(str "file", str "a"), (str "x-custom_TAG", str "v"), (str "Pos", str "-1")],
    Spec.wfFieldName kv.1 = true := by decide +kernel
example : response (fun _ => true) .queue
    ⟨[(str "file", str "a"), (str "duration", str "18446744073709551616")], none⟩ = .terr := by
  repeat rw [str_ofList]
  decide +kernel
def exSong : Song :=
  { url := str "a", duration := none, tags := [(.named .Title, [str "t", str "u"]), (.other (str "x-custom_TAG"), [str "v"])],
    format := none, lastModified := none }
example : response (fun _ => true) .find
    ⟨[(str "file", str "a"), (str "x-custom_TAG", str "v"), (str "TITLE", str "t"), (str "Title", str "u")], none⟩
    = .ok (.songs [exSong]) := by decide +kernel
example : exSong.tagValues (.other (str "x-custom_TAG")) = [str "v"] ∧ exSong.title = some (str "t") ∧
    exSong.album = none ∧ exSong.artists = [] ∧ exSong.number = (0, 0) := by decide +kernel

end Mpd.C12
