import MpdProofs.Lemmas.Lookup
import MpdProofs.Lemmas.Decimal
import MpdProofs.Lemmas.Duration
import MpdProofs.Lemmas.Seq
import MpdProofs.C20
import MpdSpec.Views
/-!
# C16 — status, stats, count, list, playlist, sticker, channel, tag-type, update and replay-gain
replies decode faithfully

Per reply kind, `…_decodes`: `dec (lines MPD prints for the abstract reply r) = ok (view r)` — where
the keys are pairwise distinct, for EVERY permutation of the lines — and `…_sound`: what
`dec f = ok s` says about ANY frame `f`.

Durations: `elapsed`/`duration` are exact for MPD's `%1.3f` values below 2^23 s, whole-second values
(`xfade`, `uptime`, `playtime`, `db_playtime`, count `playtime`) below 2^53 s — `Spec.MS_LIMIT` /
`Spec.SEC_LIMIT`, the `inDomain` hypotheses (binary64 cannot represent every millisecond value
beyond; `Lemmas/Duration.lean`).
-/
namespace Mpd.C16
open Mpd.Typed Spec

theorem parsePlayState_spelling (s : State) : parsePlayState s.spelling = some (viewState s) := by
  cases s <;> decide +kernel
theorem parseSingle_spelling (s : Single) : parseSingle s.spelling = some (viewSingle s) := by
  cases s <;> decide +kernel
theorem parseReplayGainMode_spelling (m : RGMode) : parseReplayGainMode m.spelling = some (viewRG m) := by
  cases m <;> decide +kernel

def statusEnts (r : StatusRec) : List (Bytes × Option Bytes) :=
  [(K.volume, r.volume.map decimal), (K.repeat_, some (b01 r.repeat_)), (K.random, some (b01 r.random)),
   (K.single, r.single.map Single.spelling), (K.consume, some (b01 r.consume)), (K.partition, r.partition),
   (K.playlist, r.playlist.map decimal), (K.playlistlength, r.playlistlength.map decimal),
   (str "mixrampdb", r.mixrampdb), (K.state, some r.state.spelling), (K.xfade, r.xfade.map decimal),
   (str "mixrampdelay", r.mixrampdelay), (K.song, r.song.map (decimal ·.1)), (K.songid, r.song.map (decimal ·.2)),
   (str "time", r.time), (K.elapsed, r.elapsed.map fmt3), (K.bitrate, r.bitrate.map decimal),
   (K.duration, r.duration.map fmt3), (str "audio", r.audio), (K.updating_db, r.updatingDb.map decimal),
   (K.error, r.error), (K.nextsong, r.nextsong.map (decimal ·.1)), (K.nextsongid, r.nextsong.map (decimal ·.2))]

theorem encStatus_eq (r : StatusRec) : encStatus r = linesOf (statusEnts r) := by
  simp only [linesOf, statusEnts, List.flatMap_cons, List.flatMap_nil, List.append_nil]
  rfl

/-- pairwise distinct, and the legacy `Time` is not among them -/
theorem statusKeys_nodup (r : StatusRec) : (K.Time :: (statusEnts r).map (·.1)).Nodup := by
  simp only [statusEnts, List.map_cons, List.map_nil, K.Time, K.volume, K.repeat_, K.random, K.single, K.consume,
    K.partition, K.playlist, K.playlistlength, K.state, K.xfade, K.song, K.songid, K.elapsed, K.bitrate, K.duration,
    K.updating_db, K.error, K.nextsong, K.nextsongid]
  repeat rw [str_ofList]
  decide +kernel

/-- the `duration` of a status: the `duration` line if present, else the part after the first `:`
of a legacy `Time` line, else none -/
def DurRel (look : Bytes → Option Bytes) (x : Option Dur) : Prop :=
  match look K.duration with
  | some v => ∃ d, parseDuration v = some d ∧ x = some d
  | none =>
    match look K.Time with
    | some t => ∃ d, parseLegacyTime t = some d ∧ x = some d
    | none => x = none

structure StatusSound (look : Bytes → Option Bytes) (s : Status) : Prop where
  volume : Def look K.volume parseU8 0 s.volume
  state : Req look K.state parsePlayState s.state
  repeat_ : Req look K.repeat_ parseBool s.repeat_
  random : Req look K.random parseBool s.random
  consume : Req look K.consume parseBool s.consume
  single : Def look K.single parseSingle .disabled s.single
  playlistLength : Def look K.playlistlength parseUsize 0 s.playlistLength
  playlistVersion : Def look K.playlist parseU32 0 s.playlistVersion
  currentSong : SongRel look K.song K.songid s.currentSong
  nextSong : SongRel look K.nextsong K.nextsongid s.nextSong
  elapsed : Opt look K.elapsed parseDuration s.elapsed
  duration : DurRel look s.duration
  bitrate : Opt look K.bitrate parseU64 s.bitrate
  crossfade : Def look K.xfade parseDuration (0, 0) s.crossfade
  updateJob : Opt look K.updating_db parseU64 s.updateJob
  error : s.error = look K.error
  partition : s.partition = look K.partition

theorem statusRest_ok_iff {look single D s} (hs : Def look K.single parseSingle .disabled single) (hD : DurRel look D) :
    (statusRest single D).runF look = .ok s ↔ StatusSound look s ∧ s.single = single ∧ s.duration = D := by
  simp only [statusRest, runF_pOptional_ok_iff, runF_pValue_ok_iff, runF_pSongIdentifier_ok_iff, runF_pRaw, runF_ret,
    Outcome.ok.injEq]
  constructor
  · rintro ⟨volume, h1, state, h2, rep, h3, random, h4, consume, h5, pll, h6, plv, h7, cur, h8, next, h9, elapsed, h10,
      bitrate, h11, xfade, h12, uj, h13, rfl⟩
    exact ⟨⟨h1.getD 0, h2, h3, h4, h5, hs, h6.getD 0, h7.getD 0, h8, h9, h10, hD, h11, h12.getD (0, 0), h13, rfl, rfl⟩,
      rfl, rfl⟩
  · rintro ⟨⟨h1, h2, h3, h4, h5, -, h6, h7, h8, h9, h10, -, h11, h12, h13, h14, h15⟩, rfl, rfl⟩
    obtain ⟨o1, g1, e1⟩ := h1.exists_opt
    obtain ⟨o6, g6, e6⟩ := h6.exists_opt
    obtain ⟨o7, g7, e7⟩ := h7.exists_opt
    obtain ⟨o12, g12, e12⟩ := h12.exists_opt
    refine ⟨o1, g1, _, h2, _, h3, _, h4, _, h5, o6, g6, o7, g7, _, h8, _, h9, _, h10, _, h11, o12, g12, _, h13, ?_⟩
    rw [← e1, ← e6, ← e7, ← e12, ← h14, ← h15]

theorem singleOf_eq_some_iff {look : Bytes → Option Bytes} {sm} :
    singleOf (look K.single) = some sm ↔ Def look K.single parseSingle .disabled sm := by
  unfold Def
  cases look K.single with
  | none => exact ⟨fun h => (Option.some.inj h).symm, fun h => h ▸ rfl⟩
  | some v => exact Iff.rfl

/-- the `let duration = …` of `Status::from_frame`: `none` where it returns an error -/
def durOf (look : Bytes → Option Bytes) : Option (Option Dur) :=
  match look K.duration with
  | some v => (parseDuration v).map some
  | none =>
    match look K.Time with
    | some t => (parseLegacyTime t).map some
    | none => some none

theorem durOf_eq_some_iff {look : Bytes → Option Bytes} {D} : durOf look = some D ↔ DurRel look D := by
  unfold durOf DurRel
  cases look K.duration with
  | some v =>
    simp only []
    cases parseDuration v <;> simp [eq_comm]
  | none =>
    cases look K.Time with
    | some t =>
      simp only []
      cases parseLegacyTime t <;> simp [eq_comm]
    | none => simp [eq_comm]

/-- `Status::from_frame` is its two `let`s followed by the struct literal -/
theorem statusProg_runF (look : Bytes → Option Bytes) :
    statusProg.runF look =
      match singleOf (look K.single), durOf look with
      | some single, some D => (statusRest single D).runF look
      | _, _ => .terr := by
  unfold statusProg durOf
  simp only [runF_get]
  cases singleOf (look K.single) with
  | none => rfl
  | some single =>
    simp only [runF_get]
    cases look K.duration with
    | some v =>
      simp only []
      cases parseDuration v <;> rfl
    | none =>
      simp only [runF_get]
      cases look K.Time with
      | some t =>
        simp only []
        cases parseLegacyTime t <;> rfl
      | none => rfl

theorem statusProg_ok_iff {look s} : statusProg.runF look = .ok s ↔ StatusSound look s := by
  rw [statusProg_runF]
  constructor
  · intro h
    split at h
    · rename_i single D hs hD
      exact ((statusRest_ok_iff (singleOf_eq_some_iff.mp hs) (durOf_eq_some_iff.mp hD)).mp h).1
    · cases h
  · intro hS
    rw [singleOf_eq_some_iff.mpr hS.single, durOf_eq_some_iff.mpr hS.duration]
    exact (statusRest_ok_iff hS.single hS.duration).mpr ⟨hS, rfl, rfl⟩

theorem viewStatus_sound (r : StatusRec) (hd : r.inDomain = true) {look : Bytes → Option Bytes}
    (hl : ∀ e ∈ statusEnts r, look e.1 = e.2) (hT : look K.Time = none) : StatusSound look (viewStatus r) := by
  simp only [statusEnts, List.forall_mem_cons, List.not_mem_nil, false_implies, implies_true, and_true] at hl
  obtain ⟨volume, repeat_, random, single, consume, partition, playlist, playlistlength, -, state, xfade, -, song,
    songid, -, elapsed, bitrate, duration, -, updating_db, error, nextsong, nextsongid⟩ := hl
  simp only [StatusRec.inDomain, Bool.and_eq_true, Option.all_eq_true, decide_eq_true_eq] at hd
  obtain ⟨⟨⟨⟨⟨⟨⟨⟨⟨le_volume, le_playlist⟩, le_playlistlength⟩, le_song⟩, le_nextsong⟩, le_bitrate⟩, le_job⟩,
    lt_xfade⟩, lt_elapsed⟩, lt_duration⟩ := hd
  refine
    { volume := (Opt.of_enc volume fun a ha => parseU8_decimal a (le_volume a ha)).getD 0
      state := ⟨_, state, parsePlayState_spelling _⟩
      repeat_ := ⟨_, repeat_, parseBool_b01 _⟩
      random := ⟨_, random, parseBool_b01 _⟩
      consume := ⟨_, consume, parseBool_b01 _⟩
      single := (Opt.of_encv single fun a _ => parseSingle_spelling a).getD _
      playlistLength := (Opt.of_enc playlistlength fun a ha => parseUsize_decimal a (le_playlistlength a ha)).getD 0
      playlistVersion := (Opt.of_enc playlist fun a ha => parseU32_decimal a (le_playlist a ha)).getD 0
      currentSong := .of_enc song songid (fun a ha => parseUsize_decimal _ (le_song a ha).1)
        fun a ha => parseU64_decimal _ (le_song a ha).2
      nextSong := .of_enc nextsong nextsongid (fun a ha => parseUsize_decimal _ (le_nextsong a ha).1)
        fun a ha => parseU64_decimal _ (le_nextsong a ha).2
      elapsed := .of_encv elapsed fun a ha => F64.decodeDuration_fmt3 a (lt_elapsed a ha)
      duration := ?_
      bitrate := .of_enc bitrate fun a ha => parseU64_decimal a (le_bitrate a ha)
      crossfade := (Opt.of_encv xfade fun a ha => F64.decodeDuration_decimal a (lt_xfade a ha)).getD _
      updateJob := .of_enc updating_db fun a ha => parseU64_decimal a (le_job a ha)
      error := error.symm
      partition := partition.symm }
  unfold DurRel
  rw [duration, hT]
  cases hdu : r.duration with
  | none => simp [viewStatus, hdu]
  | some ms => exact ⟨msDur ms, F64.decodeDuration_fmt3 ms (lt_duration ms hdu), by simp [viewStatus, hdu]⟩

/-- **status**: ANY permutation of the lines MPD prints for an abstract status reply (every subset of
optional lines, with or without a binary part) decodes to exactly that reply -/
theorem C16_status_decodes (r : StatusRec) (hd : r.inDomain = true) (l : List Line)
    (hp : l.Perm (encStatus r)) (bin : Option Bytes) :
    decStatus ⟨l, bin⟩ = .ok (viewStatus r) := by
  rw [decStatus_eq]
  rw [encStatus_eq] at hp
  have hnd := List.nodup_cons.mp (statusKeys_nodup r)
  exact statusProg_ok_iff.mpr (viewStatus_sound r hd (fun _ he => find_perm_linesOf hp hnd.2 bin he)
    (find_perm_linesOf_none hp hnd.2 bin hnd.1))

/-- **soundness of `Status`**: whatever frame was decoded, every field of the decoded value is the
conversion of the first line with its key (a value outside the field's domain cannot lead to a
value); defaulted fields are the default exactly when the line is missing -/
theorem C16_status_sound (f : AFrame) (s : Status) (h : decStatus f = .ok s) : StatusSound f.find s :=
  statusProg_ok_iff.mp (decStatus_eq f ▸ h)

/-- **absence ⇔ omission** for every optional field of `Status` (for `duration`: neither `duration`
nor the legacy `Time`) -/
theorem C16_status_absent_iff_omitted (f : AFrame) (s : Status) (h : decStatus f = .ok s) :
    (s.elapsed = none ↔ f.find K.elapsed = none) ∧ (s.bitrate = none ↔ f.find K.bitrate = none) ∧
    (s.updateJob = none ↔ f.find K.updating_db = none) ∧ (s.error = none ↔ f.find K.error = none) ∧
    (s.partition = none ↔ f.find K.partition = none) ∧ (s.currentSong = none ↔ f.find K.song = none) ∧
    (s.nextSong = none ↔ f.find K.nextsong = none) ∧
    (s.duration = none ↔ f.find K.duration = none ∧ f.find K.Time = none) := by
  have hs := C16_status_sound f s h
  refine ⟨hs.elapsed.none_iff, hs.bitrate.none_iff, hs.updateJob.none_iff, by rw [hs.error], by rw [hs.partition],
    hs.currentSong.none_iff, hs.nextSong.none_iff, ?_⟩
  have hd := hs.duration
  unfold DurRel at hd
  cases h1 : f.find K.duration with
  | some v => simp only [h1] at hd; obtain ⟨d, _, hd⟩ := hd; simp [hd]
  | none =>
    simp only [h1] at hd
    cases h2 : f.find K.Time with
    | some t => simp only [h2] at hd; obtain ⟨d, _, hd⟩ := hd; simp [hd]
    | none => simp only [h2] at hd; simp [hd]

/-- removal of fields by `Frame::get` is unobservable: on EVERY frame `Status::from_frame` is a
function of the first-occurrence lookup -/
theorem C16_status_first_occurrence (f g : AFrame) (h : ∀ k, f.find k = g.find k) : decStatus f = decStatus g := by
  rw [decStatus_eq, decStatus_eq, funext h]

/-- durations as MPD prints them are decoded exactly (the detour through binary64 loses nothing) -/
theorem C16_duration_millis_exact (ms : Nat) (h : ms < 2 ^ 23 * 1000) :
    parseDuration (fmt3 ms) = some (ms / 1000, ms % 1000 * 1000000) := F64.decodeDuration_fmt3 ms h
theorem C16_duration_seconds_exact (s : Nat) (h : s < 2 ^ 53) : parseDuration (decimal s) = some (s, 0) :=
  F64.decodeDuration_decimal s h

structure StatsSound (look : Bytes → Option Bytes) (s : Stats) : Prop where
  artists : Req look K.artists parseU64 s.artists
  albums : Req look K.albums parseU64 s.albums
  songs : Req look K.songs parseU64 s.songs
  uptime : Req look K.uptime parseDuration s.uptime
  playtime : Req look K.playtime parseDuration s.playtime
  dbPlaytime : Req look K.db_playtime parseDuration s.dbPlaytime
  dbLastUpdate : Req look K.db_update parseU64 s.dbLastUpdate

theorem statsProg_ok_iff {look} {s : Stats} : statsProg.runF look = .ok s ↔ StatsSound look s := by
  simp only [statsProg, runF_pValue_ok_iff, runF_ret, Outcome.ok.injEq]
  constructor
  · rintro ⟨a1, h1, a2, h2, a3, h3, a4, h4, a5, h5, a6, h6, a7, h7, rfl⟩
    exact ⟨h1, h2, h3, h4, h5, h6, h7⟩
  · rintro ⟨h1, h2, h3, h4, h5, h6, h7⟩
    exact ⟨_, h1, _, h2, _, h3, _, h4, _, h5, _, h6, _, h7, rfl⟩

theorem C16_stats_decodes (r : StatsRec) (hd : r.inDomain = true) (l : List Line)
    (hp : l.Perm (encStats r)) (bin : Option Bytes) :
    decStats ⟨l, bin⟩ = .ok (viewStats r) := by
  have hnd : (AFrame.keys (encStats r)).Nodup := by
    simp only [encStats, AFrame.keys, List.map_cons, List.map_nil]
    repeat rw [str_ofList]
    decide +kernel
  have hl : ∀ p ∈ encStats r, (AFrame.mk l bin).find p.1 = some p.2 := fun _ h => find_perm_mem hp hnd bin h
  simp only [encStats, List.forall_mem_cons, List.not_mem_nil, false_implies, implies_true, and_true] at hl
  obtain ⟨uptime, playtime, artists, albums, songs, db_playtime, db_update⟩ := hl
  simp only [StatsRec.inDomain, Bool.and_eq_true, decide_eq_true_eq] at hd
  obtain ⟨⟨⟨⟨⟨⟨le_artists, le_albums⟩, le_songs⟩, le_update⟩, lt_uptime⟩, lt_playtime⟩, lt_db_playtime⟩ := hd
  rw [decStats_eq]
  exact statsProg_ok_iff.mpr
    { artists := ⟨_, artists, parseU64_decimal _ le_artists⟩
      albums := ⟨_, albums, parseU64_decimal _ le_albums⟩
      songs := ⟨_, songs, parseU64_decimal _ le_songs⟩
      uptime := ⟨_, uptime, F64.decodeDuration_decimal _ lt_uptime⟩
      playtime := ⟨_, playtime, F64.decodeDuration_decimal _ lt_playtime⟩
      dbPlaytime := ⟨_, db_playtime, F64.decodeDuration_decimal _ lt_db_playtime⟩
      dbLastUpdate := ⟨_, db_update, parseU64_decimal _ le_update⟩ }

theorem C16_stats_sound (f : AFrame) (s : Stats) (h : decStats f = .ok s) : StatsSound f.find s :=
  statsProg_ok_iff.mp (decStats_eq f ▸ h)

theorem countProg_ok_iff {look} {c : Count} :
    countProg.runF look = .ok c ↔ Req look K.songs parseU64 c.songs ∧ Req look K.playtime parseDuration c.playtime := by
  simp only [countProg, runF_pValue_ok_iff, runF_ret, Outcome.ok.injEq]
  constructor
  · rintro ⟨_, h1, _, h2, rfl⟩
    exact ⟨h1, h2⟩
  · rintro ⟨h1, h2⟩
    exact ⟨_, h1, _, h2, rfl⟩

theorem C16_count_decodes (r : CountRec) (hd : r.inDomain = true) (l : List Line)
    (hp : l.Perm (encCount r)) (bin : Option Bytes) :
    decCount ⟨l, bin⟩ = .ok (viewCount r) := by
  -- unfolded first: unifying the two key lists as they stand evaluates the names
  have hnd : (AFrame.keys (encCount r)).Nodup := by
    simp only [AFrame.keys, encCount, List.map_cons, List.map_nil]
    exact countKeys_nodup
  have hl : ∀ p ∈ encCount r, (AFrame.mk l bin).find p.1 = some p.2 := fun _ h => find_perm_mem hp hnd bin h
  simp only [encCount, List.forall_mem_cons, List.not_mem_nil, false_implies, implies_true, and_true] at hl
  simp only [CountRec.inDomain, Bool.and_eq_true, decide_eq_true_eq] at hd
  rw [decCount_eq]
  exact countProg_ok_iff.mpr ⟨⟨_, hl.1, parseU64_decimal _ hd.1⟩, ⟨_, hl.2, F64.decodeDuration_decimal _ hd.2⟩⟩

theorem C16_count_sound (f : AFrame) (c : Count) (h : decCount f = .ok c) :
    Req f.find K.songs parseU64 c.songs ∧ Req f.find K.playtime parseDuration c.playtime :=
  countProg_ok_iff.mp (decCount_eq f ▸ h)

/-- `update` / `rescan`: the job id -/
theorem C16_update_decodes (job : Nat) (hd : job ≤ Spec.U64MAX) (bin : Option Bytes) :
    decUpdate ⟨encUpdate job, bin⟩ = .ok job := by
  rw [decUpdate_eq]
  exact runF_pValue_ret_ok_iff.mpr ⟨_, (find_mk _ _ _).trans (findKey_cons_eq _ (decimal job) []), parseU64_decimal _ hd⟩

theorem C16_update_sound (f : AFrame) (job : Nat) (h : decUpdate f = .ok job) :
    Req f.find K.updating_db parseU64 job :=
  runF_pValue_ret_ok_iff.mp (decUpdate_eq f ▸ h)

theorem C16_replayGain_decodes (m : RGMode) (bin : Option Bytes) :
    decReplayGain ⟨encReplayGain m, bin⟩ = .ok (viewRG m) := by
  rw [decReplayGain_eq]
  exact runF_pValue_ret_ok_iff.mpr ⟨_, (find_mk _ _ _).trans (findKey_cons_eq _ m.spelling []), parseReplayGainMode_spelling m⟩

theorem C16_replayGain_sound (f : AFrame) (m : ReplayGainMode) (h : decReplayGain f = .ok m) :
    Req f.find K.replay_gain_mode parseReplayGainMode m :=
  runF_pValue_ret_ok_iff.mp (decReplayGain_eq f ▸ h)

/-! ## enum spellings: exactly the documented ones are in the domain -/

theorem exists_ite_some {α} {p : Prop} [Decidable p] {x : α} {rest : Option α} :
    (∃ s, (if p then some x else rest) = some s) ↔ p ∨ ∃ s, rest = some s := by
  by_cases h : p
  · simp only [h, if_true, true_or, iff_true]; exact ⟨x, rfl⟩
  · simp only [h, if_false, false_or]

theorem C16_playState_domain (v : Bytes) :
    (∃ s, parsePlayState v = some s) ↔ v = str "play" ∨ v = str "pause" ∨ v = str "stop" := by
  simp only [parsePlayState, exists_ite_some, reduceCtorEq, exists_false, or_false]

theorem C16_single_domain (v : Bytes) :
    (∃ s, parseSingle v = some s) ↔ v = str "0" ∨ v = str "1" ∨ v = str "oneshot" := by
  simp only [parseSingle, exists_ite_some, reduceCtorEq, exists_false, or_false]

theorem C16_replayGainMode_domain (v : Bytes) :
    (∃ s, parseReplayGainMode v = some s) ↔ v = str "off" ∨ v = str "track" ∨ v = str "album" ∨ v = str "auto" := by
  simp only [parseReplayGainMode, exists_ite_some, reduceCtorEq, exists_false, or_false]

theorem C16_bool_domain (v : Bytes) : (∃ b, parseBool v = some b) ↔ v = [48] ∨ v = [49] := by
  simp only [parseBool, exists_ite_some, reduceCtorEq, exists_false, or_false]

/-- an integer field accepts exactly: optional `+`, at least one digit, only digits, value in range -/
theorem C16_unsigned_domain (max : Nat) (v : Bytes) (n : Nat) (h : parseUnsigned max v = some n) :
    n ≤ max ∧ ∃ ds : Bytes, (v = ds ∨ v = 43 :: ds) ∧ ds ≠ [] ∧ ds.all isDigit = true ∧ digitsVal ds = n := by
  have core : ∀ ds : Bytes, (if (ds.isEmpty || !(ds.all isDigit)) = true then none
      else if digitsVal ds ≤ max then some (digitsVal ds) else none) = some n →
      n ≤ max ∧ ds ≠ [] ∧ ds.all isDigit = true ∧ digitsVal ds = n := by
    intro ds h
    split at h
    · cases h
    · rename_i hc
      simp only [Bool.or_eq_true, Bool.not_eq_true', not_or, List.isEmpty_iff, Bool.not_eq_false] at hc
      split at h
      · rename_i hm
        cases h
        exact ⟨hm, hc.1, hc.2, rfl⟩
      · cases h
  unfold parseUnsigned at h
  simp only [] at h
  split at h
  · rename_i t
    obtain ⟨h1, h2, h3, h4⟩ := core t h
    exact ⟨h1, t, .inr rfl, h2, h3, h4⟩
  · obtain ⟨h1, h2, h3, h4⟩ := core v h
    exact ⟨h1, v, .inl rfl, h2, h3, h4⟩

/-- the lines of a grouped count reply, as the decoder must have seen them -/
inductive GroupsOf (tag : Bytes) : Fields → List (Bytes × Count) → Prop where
  | nil : GroupsOf tag [] []
  | songsFirst (v x y : Bytes) (n : Nat) (d : Dur) (rest l) :
      parseU64 x = some n → parseDuration y = some d → GroupsOf tag rest l →
      GroupsOf tag ((tag, v) :: (K.songs, x) :: (K.playtime, y) :: rest) ((v, { songs := n, playtime := d }) :: l)
  | playtimeFirst (v x y : Bytes) (n : Nat) (d : Dur) (rest l) :
      parseU64 x = some n → parseDuration y = some d → GroupsOf tag rest l →
      GroupsOf tag ((tag, v) :: (K.playtime, y) :: (K.songs, x) :: rest) ((v, { songs := n, playtime := d }) :: l)

/-- the lines of the current group that the loop state says have been read -/
def Pending (tag : Bytes) : GCState → Fields → Prop
  | .idle, pre => pre = []
  | .inGroup v none none, pre => pre = [(tag, v)]
  | .inGroup v (some n) none, pre => ∃ x, parseU64 x = some n ∧ pre = [(tag, v), (K.songs, x)]
  | .inGroup v none (some d), pre => ∃ y, parseDuration y = some d ∧ pre = [(tag, v), (K.playtime, y)]
  | .inGroup _ (some _) (some _), _ => False

theorem gcGo_ok (tag : Bytes) (st l out r) (h : gcGo tag st l out = .ok r) :
    ∀ pre, Pending tag st pre → ∃ l', r = out ++ l' ∧ GroupsOf tag (pre ++ l) l' := by
  fun_induction gcGo tag st l out with
  -- end of input between groups
  | case1 out => rintro _ rfl; cases h; exact ⟨[], by simp, .nil⟩
  -- between groups, a line with the grouping tag: a group begins
  | case4 k v rest out hk ih =>
    rintro _ rfl
    rw [Decidable.not_not] at hk; subst hk
    exact ih h _ rfl
  -- inside a group, a `songs` line that parses, `songs` not yet seen
  | case6 value songs playtime v rest out hs n hp st out' ha ih =>
    intro pre hpre
    cases songs with
    | some _ => cases hs
    | none =>
      cases playtime with
      | none =>
        cases ha
        subst hpre
        exact ih h _ ⟨v, hp, rfl⟩
      | some d =>
        cases ha
        obtain ⟨y, hy, rfl⟩ := hpre
        obtain ⟨l', rfl, hg⟩ := ih h [] rfl
        exact ⟨_ :: l', by simp, .playtimeFirst value v y n d rest l' hp hy hg⟩
  -- inside a group, a `playtime` line that parses, `playtime` not yet seen
  | case11 value songs playtime v rest out hs d hp st out' ha hne ih =>
    intro pre hpre
    cases playtime with
    | some _ => cases hs
    | none =>
      cases songs with
      | none =>
        cases ha
        subst hpre
        exact ih h _ ⟨v, hp, rfl⟩
      | some n =>
        cases ha
        obtain ⟨x, hx, rfl⟩ := hpre
        obtain ⟨l', rfl, hg⟩ := ih h [] rfl
        exact ⟨_ :: l', by simp, .songsFirst value x v n d rest l' hx hp hg⟩
  -- every other branch of `gcGo` is an error
  | _ => cases h

theorem gcGo_append_groups (tag : Bytes) {l : Fields} {l' : List (Bytes × Count)} (h : GroupsOf tag l l') :
    ∀ rest out, gcGo tag .idle (l ++ rest) out = gcGo tag .idle rest (out ++ l') := by
  have hps := playtime_ne_songs
  induction h with
  | nil => intro rest out; simp
  | songsFirst v x y n d l l' hp hq _ ih =>
    intro rest out
    simp [gcGo, gcAfter, hp, hq, hps, ih]
  | playtimeFirst v x y n d l l' hp hq _ ih =>
    intro rest out
    simp [gcGo, gcAfter, hp, hq, hps, ih]

/-- **soundness of the grouped count**: a result is produced exactly when the frame is a sequence of
complete groups (grouping-tag line, then `songs` and `playtime` once each in either order, both
inside their domains), and is those groups in order: no value is paired with a neighbour's counters -/
theorem C16_countGrouped_sound (t : Tag) (f : AFrame) (l : List (Bytes × Count)) :
    decCountGrouped t f = .ok l ↔ GroupsOf t.name f.fields l := by
  unfold decCountGrouped
  constructor
  · intro h
    obtain ⟨l', rfl, hg⟩ := gcGo_ok t.name .idle f.fields [] l h [] rfl
    simpa using hg
  · intro h
    simpa [gcGo] using gcGo_append_groups t.name h [] []

theorem groupsOf_enc (tag : Bytes) (gs : List CountGroup) (hd : ∀ g ∈ gs, g.inDomain = true) :
    GroupsOf tag (encCountGrouped tag gs) (viewCountGroups gs) := by
  induction gs with
  | nil => exact .nil
  | cons g gs ih =>
    have hg := hd g (List.mem_cons_self ..)
    simp only [CountGroup.inDomain, Bool.and_eq_true, decide_eq_true_eq] at hg
    have ih := ih fun g' h' => hd g' (List.mem_cons_of_mem _ h')
    simp only [encCountGrouped, List.flatMap_cons, viewCountGroups, List.map_cons, encCountGroup] at ih ⊢
    cases g.playtimeFirst with
    | false => exact .songsFirst _ _ _ _ _ _ _ (parseU64_decimal _ hg.1) (F64.decodeDuration_decimal _ hg.2) ih
    | true => exact .playtimeFirst _ _ _ _ _ _ _ (parseU64_decimal _ hg.1) (F64.decodeDuration_decimal _ hg.2) ih

/-- **grouped count**: the server's groups, in order — whatever the group values are (repeated,
empty, equal to `songs`…) -/
theorem C16_countGrouped_decodes (t : Tag) (gs : List CountGroup) (hd : ∀ g ∈ gs, g.inDomain = true)
    (bin : Option Bytes) :
    decCountGrouped t ⟨encCountGrouped t.name gs, bin⟩ = .ok (viewCountGroups gs) :=
  (C16_countGrouped_sound t _ _).mpr (groupsOf_enc t.name gs hd)

/-- a trailing group that lacks a counter, a line that is not the grouping tag where a group must
start, or a counter given twice is an error — never a mis-paired value -/
theorem C16_countGrouped_malformed (t : Tag) (gs : List CountGroup) (hd : ∀ g ∈ gs, g.inDomain = true)
    (k v x y : Bytes) (bin : Option Bytes) :
    decCountGrouped t ⟨encCountGrouped t.name gs ++ [(t.name, v)], bin⟩ = .terr ∧
    decCountGrouped t ⟨encCountGrouped t.name gs ++ [(t.name, v), (K.songs, x)], bin⟩ = .terr ∧
    decCountGrouped t ⟨encCountGrouped t.name gs ++ [(t.name, v), (K.playtime, x)], bin⟩ = .terr ∧
    decCountGrouped t ⟨encCountGrouped t.name gs ++ [(t.name, v), (K.songs, x), (K.songs, y)], bin⟩ = .terr ∧
    (k ≠ t.name → decCountGrouped t ⟨encCountGrouped t.name gs ++ [(k, v)], bin⟩ = .terr) := by
  unfold decCountGrouped
  simp only [gcGo_append_groups t.name (groupsOf_enc t.name gs hd)]
  have hne := playtime_ne_songs
  refine ⟨by simp [gcGo], ?_, ?_, ?_, fun hk => by simp [gcGo, hk]⟩
  · cases h : parseU64 x <;> simp [gcGo, gcAfter, h]
  · cases h : parseDuration x <;> simp [gcGo, gcAfter, h, hne]
  · cases h : parseU64 x <;> simp [gcGo, gcAfter, h]

/-- a tag the API can produce: a named variant or a result of `Tag::try_from` -/
def Producible (t : Tag) : Prop := Tag.tryFrom t.name = .ok t

theorem producible_named (v : TagV) : Producible (.named v) := Mpd.C20.C20_roundtrip_named v
theorem producible_of_tryFrom (raw : Bytes) (t : Tag) (h : Tag.tryFrom raw = .ok t) : Producible t :=
  Mpd.C20.C20_roundtrip_producible raw t h

theorem listFields_names (l : List (Tag × Bytes)) (h : ∀ p ∈ l, Producible p.1) :
    listFields (l.map fun p => (p.1.name, p.2)) = .ok l := by
  rw [listFields_eq]
  exact Outcome.all_map_enc l fun p hp => listLine_eq_ok_iff.mpr ⟨h p hp, rfl⟩

theorem groupedGo_plain (t : Tag) (vs : List Bytes) :
    groupedGo t [] (vs.map fun v => (t, v)) [] = vs.map (fun v => (v, [])) := by
  induction vs with
  | nil => rfl
  | cons v vs ih => simp [groupedGo, Tag.eq, ih]

/-- **plain list**: the values in order -/
theorem C16_list_decodes (t : Tag) (ht : Producible t) (vs : List Bytes) (bin : Option Bytes) :
    ∃ r, decList t [] ⟨encList t.name vs, bin⟩ = .ok r ∧ r.values = vs ∧
      r.groupedValues = vs.map (fun v => (v, [])) := by
  have hl : encList t.name vs = (vs.map fun v => (t, v)).map fun p => (p.1.name, p.2) := by
    simp [encList, List.map_map, Function.comp_def]
  have hf := listFields_names (vs.map fun v => (t, v)) (by
    intro p hp; simp only [List.mem_map] at hp; obtain ⟨v, _, rfl⟩ := hp; exact ht)
  refine ⟨{ primary := t, groupings := [], fields := vs.map fun v => (t, v) }, ?_, ?_, ?_⟩
  · unfold decList; simp only [hl, hf]
  · simp [ListResp.values, List.map_map, Function.comp_def]
  · simp only [ListResp.groupedValues, List.length_nil, List.replicate]
    exact groupedGo_plain t vs

/-- the lines of one row, with tags instead of their names -/
def rowLinesT (t : Tag) (gs : List Tag) (r : ListRow) : List (Tag × Bytes) :=
  r.emit.filterMap (fun i => match gs[i]?, r.groups[i]? with
    | some g, some v => some (g, v)
    | _, _ => none) ++ [(t, r.value)]

theorem encListRow_eq (t : Tag) (gs : List Tag) (r : ListRow) :
    encListRow t.name (gs.map Tag.name) r = (rowLinesT t gs r).map fun p => (p.1.name, p.2) := by
  unfold encListRow rowLinesT
  simp only [List.map_append, List.map_cons, List.map_nil]
  congr 1
  rw [List.map_filterMap]
  congr 1
  funext i
  rw [List.getElem?_map]
  cases gs[i]? <;> cases r.groups[i]? <;> rfl

theorem rowLinesT_tags {t : Tag} {gs : List Tag} {r : ListRow} {p : Tag × Bytes} (hp : p ∈ rowLinesT t gs r) :
    p.1 ∈ t :: gs := by
  rcases List.mem_append.mp hp with h | h
  · obtain ⟨i, _, hi⟩ := List.mem_filterMap.mp h
    split at hi
    · rename_i g v hg _
      cases hi
      exact List.mem_cons_of_mem _ (List.mem_of_getElem? hg)
    · cases hi
  · rw [List.mem_singleton.mp h]
    exact List.mem_cons_self ..

theorem tagPosition_getElem (gs : List Tag) (hd : (gs.map Tag.name).Nodup) (i : Nat) (g : Tag)
    (hi : gs[i]? = some g) : tagPosition g gs = some i := by
  induction gs generalizing i with
  | nil => simp at hi
  | cons a as ih =>
    simp only [List.map_cons, List.nodup_cons] at hd
    cases i with
    | zero =>
      simp only [List.getElem?_cons_zero, Option.some.injEq] at hi
      subst hi
      simp [tagPosition, Tag.eq]
    | succ i =>
      simp only [List.getElem?_cons_succ] at hi
      have hmem : g ∈ as := List.mem_of_getElem? hi
      have hne : a.eq g = false := by
        simp only [Tag.eq, beq_eq_false_iff_ne, ne_eq]
        intro e
        exact hd.1 (e ▸ List.mem_map_of_mem (f := Tag.name) hmem)
      simp [tagPosition, hne, ih hd.2 i hi]

theorem length_foldl_set (g : Nat → Bytes) (emit : List Nat) (cur : List Bytes) :
    (emit.foldl (fun c j => c.set j (g j)) cur).length = cur.length := by
  induction emit generalizing cur with
  | nil => rfl
  | cons j js ih => simp [ih]

/-- After the grouping lines printed before a row the current values are the row's, provided every
position that is not printed already holds the row's value (the coverage clause of `Spec.rowOk`). -/
theorem groupedGo_emits (t : Tag) (gs : List Tag) (hd : ((t :: gs).map Tag.name).Nodup)
    (groups : List Bytes) (hg : groups.length = gs.length) (emit : List Nat) (he : ∀ i ∈ emit, i < gs.length)
    (rest : List (Tag × Bytes)) (cur : List Bytes) (hcur : cur.length = gs.length)
    (hcov : ∀ i < gs.length, i ∈ emit ∨ cur[i]? = groups[i]?) :
    groupedGo t gs (emit.filterMap (fun i => match gs[i]?, groups[i]? with
        | some g, some v => some (g, v)
        | _, _ => none) ++ rest) cur =
      groupedGo t gs rest groups := by
  simp only [List.map_cons, List.nodup_cons] at hd
  induction emit generalizing cur with
  | nil =>
    have : cur = groups := List.ext_getElem? fun i => by
      by_cases hi : i < gs.length
      · exact (hcov i hi).resolve_left (by simp)
      · rw [List.getElem?_eq_none (by omega), List.getElem?_eq_none (by omega)]
    subst this
    rfl
  | cons i is ih =>
    have hi : i < gs.length := he i (List.mem_cons_self ..)
    have h1 : gs[i]? = some gs[i] := List.getElem?_eq_getElem hi
    have hi' : i < groups.length := hg ▸ hi
    have h2 : groups[i]? = some groups[i] := List.getElem?_eq_getElem hi'
    have hne : (gs[i]).eq t = false := by
      simp only [Tag.eq, beq_eq_false_iff_ne, ne_eq]
      intro e
      exact hd.1 (e ▸ List.mem_map_of_mem (f := Tag.name) (List.getElem_mem hi))
    have hpos := tagPosition_getElem gs hd.2 i gs[i] h1
    simp only [List.filterMap_cons, h1, h2, List.cons_append, groupedGo, hne, hpos, Bool.false_eq_true, if_false]
    refine ih (fun j hj => he j (List.mem_cons_of_mem _ hj)) _ (by simp [hcur]) fun j hj => ?_
    by_cases hji : j = i
    · subst hji
      exact .inr (by rw [List.getElem?_set_self (by omega), h2])
    · rcases hcov j hj with h | h
      · exact .inl ((List.mem_cons.mp h).resolve_left hji)
      · exact .inr (by rw [List.getElem?_set_ne (Ne.symm hji)]; exact h)

theorem groupedGo_rows (t : Tag) (gs : List Tag) (hd : ((t :: gs).map Tag.name).Nodup) (rows : List ListRow)
    (cur : List Bytes) (hcur : cur.length = gs.length) (hok : rowsOk gs.length cur rows = true) :
    groupedGo t gs (rows.flatMap (rowLinesT t gs)) cur = viewListRows rows := by
  induction rows generalizing cur with
  | nil => rfl
  | cons r rs ih =>
    simp only [rowsOk, rowOk, Bool.and_eq_true, beq_iff_eq, List.all_eq_true, decide_eq_true_eq, List.mem_range,
      Bool.or_eq_true, List.contains_iff_mem] at hok
    obtain ⟨⟨⟨hlen, hemit⟩, hcov⟩, hrest⟩ := hok
    simp only [List.flatMap_cons, rowLinesT, List.append_assoc]
    rw [groupedGo_emits t gs hd r.groups hlen r.emit hemit _ cur hcur hcov]
    simp [groupedGo, Tag.eq, viewListRows, ih r.groups hlen hrest]

/-- **grouped list**: for pairwise distinct producible tags, `grouped_values()` yields exactly the
server's rows (value of the listed tag with the value of every grouping tag, in `group_by` order),
whichever grouping lines the server re-prints before a row, in whatever order — as long as every
position whose value changed is printed (`Spec.rowsOk`) -/
theorem C16_listGrouped_decodes (t : Tag) (gs : List Tag) (hprod : ∀ x ∈ t :: gs, Producible x)
    (hd : ((t :: gs).map Tag.name).Nodup) (rows : List ListRow)
    (hok : rowsOk gs.length (List.replicate gs.length []) rows = true) (bin : Option Bytes) :
    ∃ r, decList t gs ⟨encListGrouped t.name (gs.map Tag.name) rows, bin⟩ = .ok r ∧
      r.groupedValues = viewListRows rows ∧ r.groupings = gs := by
  have hl : encListGrouped t.name (gs.map Tag.name) rows =
      (rows.flatMap (rowLinesT t gs)).map fun p => (p.1.name, p.2) := by
    unfold encListGrouped
    simp only [List.map_flatMap]
    congr 1
    funext r
    exact encListRow_eq t gs r
  have hmem : ∀ p ∈ rows.flatMap (rowLinesT t gs), Producible p.1 := fun p hp => by
    obtain ⟨r, _, h⟩ := List.mem_flatMap.mp hp
    exact hprod p.1 (rowLinesT_tags h)
  have hf := listFields_names _ hmem
  refine ⟨{ primary := t, groupings := gs, fields := rows.flatMap (rowLinesT t gs) }, ?_, ?_, rfl⟩
  · unfold decList; simp only [hl, hf]
  · simp only [ListResp.groupedValues]
    exact groupedGo_rows t gs hd rows _ (by simp) hok

theorem playlistsGo_rows (rows : List (Bytes × Bytes)) (rest : Fields) (out : List Playlist) :
    playlistsGo none (encPlaylists rows ++ rest) out = playlistsGo none rest (out ++ viewPlaylists rows) := by
  induction rows generalizing out with
  | nil => simp [encPlaylists, viewPlaylists]
  | cons r rs ih =>
    simp only [encPlaylists, List.flatMap_cons, List.append_assoc] at ih ⊢
    simp only [List.cons_append, List.nil_append, playlistsGo, if_true]
    rw [ih]
    simp [viewPlaylists]

/-- **listplaylists**: name / `Last-Modified` pairs in order (timestamps as the raw text) -/
theorem C16_playlists_decodes (rows : List (Bytes × Bytes)) (bin : Option Bytes) :
    decPlaylists ⟨encPlaylists rows, bin⟩ = .ok (viewPlaylists rows) := by
  unfold decPlaylists
  have := playlistsGo_rows rows [] []
  simpa [playlistsGo] using this

/-- a `playlist` line where `Last-Modified` is due, or any other key, is an error -/
theorem C16_playlists_malformed (rows : List (Bytes × Bytes)) (k n v : Bytes) (rest : Fields) (bin : Option Bytes) :
    (k ≠ str "Last-Modified" → decPlaylists ⟨encPlaylists rows ++ (str "playlist", n) :: (k, v) :: rest, bin⟩ = .terr) ∧
    (k ≠ str "playlist" → decPlaylists ⟨encPlaylists rows ++ (k, v) :: rest, bin⟩ = .terr) := by
  unfold decPlaylists
  simp only [playlistsGo_rows]
  constructor
  · intro hk; simp [playlistsGo, hk]
  · intro hk; simp [playlistsGo, hk]

theorem stickerName_iff (n : Bytes) : stickerName n = true ↔ (61 : UInt8) ∉ n := by
  simp [stickerName]

/-- what the server prints for a sticker is split at the `=` after the name -/
theorem parseStickerValue_eq_some_iff {s name value : Bytes} :
    parseStickerValue s = some (name, value) ↔ s = name ++ 61 :: value ∧ stickerName name = true :=
  splitOnce_eq_some_iff.trans (and_congr_right' (stickerName_iff name).symm)

/-- exact characterisation: a value is produced iff the first line is `sticker: X=V` -/
theorem C16_stickerGet_sound (f : AFrame) (value : Bytes) :
    decStickerGet f = .ok value ↔
      ∃ name rest, stickerName name = true ∧ f.fields = (str "sticker", name ++ 61 :: value) :: rest := by
  unfold decStickerGet
  constructor
  · intro h
    split at h
    · cases h
    · rename_i k v rest hf
      split at h
      · cases h
      · rename_i hk
        rw [Decidable.not_not] at hk
        split at h
        · rename_i name value' hs
          cases h
          obtain ⟨rfl, hn⟩ := parseStickerValue_eq_some_iff.mp hs
          exact ⟨name, rest, hn, hk ▸ hf⟩
        · cases h
  · rintro ⟨name, rest, hn, hf⟩
    simp [hf, parseStickerValue_eq_some_iff.mpr ⟨rfl, hn⟩]

/-- **sticker get**: the value is everything after the first `=`, even if it contains `=` -/
theorem C16_stickerGet_decodes (name value : Bytes) (hn : stickerName name = true) (rest : Fields) (bin : Option Bytes) :
    decStickerGet ⟨encStickerGet name value ++ rest, bin⟩ = .ok value :=
  (C16_stickerGet_sound _ value).mpr ⟨name, rest, hn, by simp [encStickerGet]⟩

theorem sticker_ne_file : str "sticker" ≠ str "file" := by decide +kernel

/-- a value without `=` is an error -/
theorem C16_sticker_missing_eq (v : Bytes) (h : (61 : UInt8) ∉ v) (rest : Fields) (bin : Option Bytes) :
    decStickerGet ⟨(str "sticker", v) :: rest, bin⟩ = .terr ∧
    decStickerList ⟨(str "sticker", v) :: rest, bin⟩ = .terr ∧
    decStickerFind ⟨(str "sticker", v) :: rest, bin⟩ = .terr := by
  have := splitOnce_eq_none_of_not_mem h
  have hne := sticker_ne_file
  simp [decStickerGet, decStickerList, decStickerFind, stickerListGo, stickerFindGo, parseStickerValue, this, hne]

/-- **sticker list**: name ↦ value for every sticker (names distinct, values may contain `=`) -/
theorem C16_stickerList_decodes (rows : List (Bytes × Bytes)) (hn : ∀ p ∈ rows, stickerName p.1 = true)
    (hd : (rows.map (·.1)).Nodup) (bin : Option Bytes) :
    decStickerList ⟨encStickerList rows, bin⟩ = .ok rows := by
  unfold decStickerList encStickerList
  rw [stickerListGo_eq,
    Outcome.all_map_enc rows fun p hp => stickerLine_eq_ok_iff.mpr ⟨by simp, (stickerName_iff _).mp (hn p hp)⟩,
    Outcome.map_ok, SMap.foldl_insert_new rows [] (by simpa using hd)]
  rfl

theorem stickerFindGo_rows (name : Bytes) (hn : stickerName name = true) (rows : List (Bytes × Bytes))
    (file : Bytes) (m : SMap) :
    stickerFindGo file (encStickerFind name rows) m = .ok (rows.foldl (fun acc p => SMap.insert p.1 p.2 acc) m) := by
  induction rows generalizing m file with
  | nil => rfl
  | cons r rs ih =>
    have h1 : parseStickerValue (name ++ 61 :: r.2) = some (name, r.2) := parseStickerValue_eq_some_iff.mpr ⟨rfl, hn⟩
    simp only [encStickerFind, List.flatMap_cons, List.cons_append, List.nil_append, stickerFindGo, if_true,
      sticker_ne_file, if_false, List.append_assoc, h1, List.foldl_cons]
    simpa [encStickerFind] using ih r.1 (SMap.insert r.1 r.2 m)

/-- **sticker find**: every `file` is paired with the value of the `sticker` line that follows it -/
theorem C16_stickerFind_decodes (name : Bytes) (hn : stickerName name = true) (rows : List (Bytes × Bytes))
    (hd : (rows.map (·.1)).Nodup) (bin : Option Bytes) :
    decStickerFind ⟨encStickerFind name rows, bin⟩ = .ok rows := by
  unfold decStickerFind
  rw [stickerFindGo_rows name hn rows [] [], SMap.foldl_insert_new rows [] (by simpa using hd)]
  rfl

theorem channelMessagesGo_rows (rows out : List (Bytes × Bytes)) :
    channelMessagesGo (encMessages rows) out = .ok (out ++ rows) := by
  induction rows generalizing out with
  | nil => simp [encMessages, channelMessagesGo]
  | cons r rs ih =>
    have := ih (out ++ [r])
    simpa [encMessages, channelMessagesGo] using this

/-- **readmessages**: channel / message pairs in order -/
theorem C16_messages_decodes (rows : List (Bytes × Bytes)) (bin : Option Bytes) :
    decChannelMessages ⟨encMessages rows, bin⟩ = .ok rows :=
  channelMessagesGo_rows rows []

theorem C16_channels_decodes (names : List Bytes) (bin : Option Bytes) :
    decListChannels ⟨encChannels names, bin⟩ = .ok names := by
  unfold decListChannels encChannels
  rw [listChannelsGo_eq]
  exact Outcome.all_map_enc names fun c _ => channelLine_eq_ok_iff.mpr rfl

/-- **tagtypes**: every printed tag name is turned into the tag with that name -/
theorem C16_tagTypes_decodes (ts : List Tag) (hp : ∀ t ∈ ts, Tag.tryFrom t.name = .ok t) (bin : Option Bytes) :
    decTagTypes ⟨encTagTypes (ts.map Tag.name), bin⟩ = .ok ts := by
  unfold decTagTypes encTagTypes
  rw [tagTypesGo_eq, List.map_map]
  exact Outcome.all_map_enc ts fun t ht => tagTypeLine_eq_ok_iff.mpr ⟨rfl, hp t ht⟩

theorem C16_list_sound (t : Tag) (gs : List Tag) (f : AFrame) (r : ListResp) (h : decList t gs f = .ok r) :
    r.values = f.fields.map (·.2) ∧ r.primary = t ∧ r.groupings = gs := by
  unfold decList at h
  cases hl : listFields f.fields with
  | terr => simp [hl] at h
  | panic => simp [hl] at h
  | ok fields =>
    simp only [hl, Outcome.ok.injEq] at h
    subst h
    rw [listFields_eq, Outcome.all_eq_ok_iff] at hl
    exact ⟨(map_eq_map_of (fun _ _ e => (listLine_eq_ok_iff.mp e).2) hl).symm, rfl, rfl⟩

theorem channelMessagesGo_ok (l : Fields) (out r : List (Bytes × Bytes)) (h : channelMessagesGo l out = .ok r) :
    ∃ rows, l = encMessages rows ∧ r = out ++ rows := by
  fun_induction channelMessagesGo l out with
  | case1 out => cases h; exact ⟨[], rfl, by simp⟩
  | case5 k c k' m rest out hk hk' ih =>
    rw [Decidable.not_not] at hk hk'
    obtain ⟨rows, rfl, rfl⟩ := ih h
    exact ⟨(c, m) :: rows, by rw [hk, hk']; rfl, by simp⟩
  | _ => cases h

/-- **soundness of readmessages**: exactly the alternating channel/message frames decode -/
theorem C16_messages_sound (f : AFrame) (rows : List (Bytes × Bytes)) :
    decChannelMessages f = .ok rows ↔ f.fields = encMessages rows := by
  constructor
  · intro h
    obtain ⟨rows', h1, rfl⟩ := channelMessagesGo_ok f.fields [] rows h
    exact h1
  · intro h
    unfold decChannelMessages
    rw [h]
    exact channelMessagesGo_rows rows []

theorem C16_channels_sound (f : AFrame) (names : List Bytes) :
    decListChannels f = .ok names ↔ f.fields = encChannels names := by
  unfold decListChannels encChannels
  rw [listChannelsGo_eq, Outcome.all_eq_ok_iff]
  constructor
  · intro h
    simpa using map_eq_map_of (f' := id) (fun _ _ e => channelLine_eq_ok_iff.mp e) h
  · intro h
    rw [h, List.map_map]
    exact List.map_congr_left fun c _ => channelLine_eq_ok_iff.mpr rfl

theorem C16_messages_odd (f : AFrame) (h : f.fields.length % 2 = 1) : decChannelMessages f = .terr := by
  unfold decChannelMessages
  generalize f.fields = l at h
  fun_induction channelMessagesGo l [] with
  | case1 => cases h
  | case5 _ _ _ _ rest _ _ _ ih => exact ih (by rwa [List.length_cons, List.length_cons, Nat.add_assoc, Nat.add_mod_right] at h)
  | _ => rfl

/-- for any loop state: a pending name counts as a `playlist` line already read; `last` is the one the
end of the input leaves pending -/
theorem playlistsGo_ok (cur l out r) (h : playlistsGo cur l out = .ok r) :
    ∃ rows, ∃ last : Option Bytes,
      (cur.map (str "playlist", ·)).toList ++ l = encPlaylists rows ++ (last.map (str "playlist", ·)).toList ∧
      r = out ++ viewPlaylists rows := by
  fun_induction playlistsGo cur l out with
  | case1 cur out => cases h; exact ⟨[], cur, by simp [encPlaylists], by simp [viewPlaylists]⟩
  | case2 name v rest out ih =>
    obtain ⟨rows, last, hs, rfl⟩ := ih h
    exact ⟨(name, v) :: rows, last, congrArg (_ :: _ :: ·) hs, by simp [viewPlaylists]⟩
  | case4 v rest out ih => exact ih h
  | _ => cases h

/-- **soundness of listplaylists**: a result is produced only for `playlist`/`Last-Modified` pairs —
optionally followed by ONE trailing `playlist` line, which is dropped (MPD always sends the pair; the
same omission in the middle is an error, `C16_playlists_malformed`) — and is those pairs in order -/
theorem C16_playlists_sound (f : AFrame) (r : List Playlist) (h : decPlaylists f = .ok r) :
    ∃ rows, (f.fields = encPlaylists rows ∨ ∃ nm, f.fields = encPlaylists rows ++ [(str "playlist", nm)]) ∧
      r = viewPlaylists rows := by
  obtain ⟨rows, last, h1, h2⟩ := playlistsGo_ok none f.fields [] r h
  refine ⟨rows, ?_, by simpa using h2⟩
  cases last with
  | none => exact .inl (by simpa using h1)
  | some nm => exact .inr ⟨nm, h1⟩

/-- tag types: an `ok` result means every line is `tagtype: NAME` with NAME a tag, in order -/
theorem C16_tagTypes_sound (f : AFrame) (ts : List Tag) (h : decTagTypes f = .ok ts) :
    f.fields.map (·.1) = ts.map (fun _ => str "tagtype") ∧
    (f.fields.map (fun p => Tag.tryFrom p.2)) = ts.map Except.ok := by
  unfold decTagTypes at h
  rw [tagTypesGo_eq, Outcome.all_eq_ok_iff] at h
  exact ⟨map_eq_map_of (fun _ _ e => (tagTypeLine_eq_ok_iff.mp e).1) h,
    map_eq_map_of (fun _ _ e => (tagTypeLine_eq_ok_iff.mp e).2) h⟩

/-- sticker list: an `ok` result means every value has the shape `NAME=VALUE` (split at the first
`=`), and the map is those pairs inserted in order (a later duplicate name replaces the earlier) -/
theorem C16_stickerList_sound (f : AFrame) (m : SMap) (h : decStickerList f = .ok m) :
    ∃ rows : List (Bytes × Bytes), f.fields.map (·.2) = rows.map (fun p => p.1 ++ 61 :: p.2) ∧
      (∀ p ∈ rows, stickerName p.1 = true) ∧ m = rows.foldl (fun acc p => SMap.insert p.1 p.2 acc) [] := by
  unfold decStickerList at h
  rw [stickerListGo_eq, Outcome.map_eq_ok_iff] at h
  obtain ⟨rows, rfl, h⟩ := h
  rw [Outcome.all_eq_ok_iff] at h
  refine ⟨rows, map_eq_map_of (fun _ _ e => (stickerLine_eq_ok_iff.mp e).1) h, fun p hp => ?_, rfl⟩
  obtain ⟨_, _, e⟩ := List.mem_map.mp (h ▸ List.mem_map_of_mem (f := Outcome.ok) hp)
  exact (stickerName_iff _).mpr (stickerLine_eq_ok_iff.mp e).2

def exStatus : StatusRec :=
  { volume := some 100, repeat_ := true, single := some Single.oneshot, state := State.play,
    playlist := some 4294967295, playlistlength := some 12, song := some (3, 17), nextsong := some (4, 18),
    elapsed := some 1500, duration := some 123456, bitrate := some 320, xfade := some 5,
    updatingDb := some 7, error := some (str "x: y"), time := some (str "1:123"),
    audio := some (str "44100:16:2") }

example : exStatus.inDomain = true := by decide +kernel
example : decStatus ⟨(encStatus exStatus).reverse, some [1, 2]⟩ = .ok (viewStatus exStatus) :=
  C16_status_decodes exStatus (by decide +kernel) _ (List.reverse_perm _) _
example : (viewStatus exStatus).updateJob = some 7 ∧ (viewStatus exStatus).elapsed = some (1, 500000000) ∧
    (viewStatus exStatus).single = .oneshot ∧ (viewStatus exStatus).nextSong = some (4, 18) := by decide +kernel
def exStats : StatsRec :=
  { uptime := 86400, playtime := 3, artists := 1, albums := 2, songs := 3, dbPlaytime := 25000000,
    dbUpdate := 1700000000 }
example : decStats ⟨(encStats exStats).reverse, none⟩ = .ok (viewStats exStats) :=
  C16_stats_decodes exStats (by decide +kernel) _ (List.reverse_perm _) _
example : decCountGrouped (.named .Album) ⟨encCountGrouped (Tag.named .Album).name
    [⟨str "A", 1, 60, false⟩, ⟨str "A", 2, 61, true⟩, ⟨[], 0, 0, false⟩], none⟩ =
    .ok [(str "A", ⟨1, (60, 0)⟩), (str "A", ⟨2, (61, 0)⟩), ([], ⟨0, (0, 0)⟩)] :=
  C16_countGrouped_decodes _ _ (by decide +kernel) _
/-- two grouping tags, the outer one printed only when it changes, an unchanged one repeated -/
def exRows : List ListRow :=
  [⟨str "T1", [str "Bar", str "Foo"], [1, 0]⟩, ⟨str "T2", [str "Bar", str "Foo"], []⟩,
   ⟨str "T3", [str "Quz", str "Foo"], [0]⟩, ⟨str "T4", [str "Qwert", str "Asdf"], [1, 0, 1]⟩]
example : rowsOk 2 (List.replicate 2 []) exRows = true := by decide +kernel
example : ∃ r, decList (.named .Title) [.named .Album, .named .AlbumArtist]
      ⟨encListGrouped (Tag.named .Title).name ([Tag.named .Album, .named .AlbumArtist].map Tag.name) exRows, none⟩ = .ok r ∧
      r.groupedValues = viewListRows exRows ∧ r.groupings = [.named .Album, .named .AlbumArtist] :=
  C16_listGrouped_decodes _ _ (by intro x hx; simp only [List.mem_cons, List.not_mem_nil, or_false] at hx
                                  rcases hx with rfl | rfl | rfl <;> exact producible_named _)
    (by decide +kernel) exRows (by decide +kernel) none
example : decStickerGet ⟨[(str "sticker", str "rating=a=b")], none⟩ = .ok (str "a=b") := by decide +kernel
example : decStickerGet ⟨[(str "sticker", str "rating")], none⟩ = .terr := by decide +kernel
example : decStickerFind ⟨encStickerFind (str "n") [(str "a.mp3", str "1"), (str "b.mp3", str "x=y")], none⟩ =
    .ok [(str "a.mp3", str "1"), (str "b.mp3", str "x=y")] :=
  C16_stickerFind_decodes _ (by decide +kernel) _ (by decide +kernel) _
example : decChannelMessages ⟨[(str "channel", str "c"), (str "message", str "m"), (str "channel", str "d")], none⟩ = .terr :=
  C16_messages_odd _ (by decide +kernel)
example : decPlaylists ⟨[(str "playlist", str "a"), (str "playlist", str "b")], none⟩ = .terr := by decide +kernel

end Mpd.C16
