import MpdProofs.Lemmas.Records
import MpdProofs.C20
import MpdProofs.Lemmas.Seq
import MpdProofs.Lemmas.CmdList
import MpdSpec.Names
/-!
# C12 (the half of package `typed`) — typed conversion never panics

For every decoder other than the song listings, every accessor, and typed command lists:
the outcome is a value or a typed-response error, never `panic` — for every frame the protocol
parser can produce (`ParserFrame`: keys non-empty over `Spec.fieldNameChar`), whatever the values,
numeric magnitudes, duplicates, binary part or frame count.

The partial operations of the Rust are explicit `panic` branches of the model:
`Tag::try_from(key).unwrap()` in `List::from_frame` (needs the parser's key alphabet — and is
LIVE outside it), `songs.unwrap()`/`playtime.unwrap()` in `build_grouped_values`
(unreachable because of the loop condition). `parse_duration` (F2), the grouped-list iterator
(F3) and typed command lists (F4) have no panic branch: the model mirrors the fixed code.
-/
namespace Mpd.C12
open Mpd.Typed

/-- `Status::from_frame` never panics, on any frame (durations of any magnitude included) -/
theorem C12_status_total (f : AFrame) : decStatus f ≠ .panic := statusProg_reads.run_ne_panic f
theorem C12_stats_total (f : AFrame) : decStats f ≠ .panic := statsProg_reads.run_ne_panic f
theorem C12_replayGain_total (f : AFrame) : decReplayGain f ≠ .panic := replayGainProg_reads.run_ne_panic f
theorem C12_count_total (f : AFrame) : decCount f ≠ .panic := countProg_reads.run_ne_panic f
theorem C12_update_total (f : AFrame) : decUpdate f ≠ .panic := updateProg_reads.run_ne_panic f
theorem C12_addId_total (f : AFrame) : decAddId f ≠ .panic := addIdProg_reads.run_ne_panic f
theorem C12_unit_total (f : AFrame) : decUnit f ≠ .panic := by intro h; cases h
theorem C12_albumArt_total (f : AFrame) : decAlbumArt f ≠ .panic := by
  unfold decAlbumArt AFrame.takeBinary
  cases f.binary with
  | none => intro h; cases h
  | some data => exact ReadsKeys.run_ne_panic (ks := [K.size, K.type]) (.pValue fun _ => .pRaw fun _ => .ok _) _

theorem gcAfter_ne_panic (v : Bytes) (s : Option Nat) (p : Option Dur) (out) : gcAfter v s p out ≠ .panic := by
  unfold gcAfter
  cases s <;> cases p <;> simp

theorem gcGo_ne_panic (tag : Bytes) (st l out) : gcGo tag st l out ≠ .panic := by
  fun_induction gcGo tag st l out <;> simp_all [gcAfter_ne_panic]

theorem C12_countGrouped_total (t : Tag) (f : AFrame) : decCountGrouped t f ≠ .panic :=
  gcGo_ne_panic _ _ _ _

/-- what `mpd_protocol`'s parser guarantees about the keys of a frame -/
def ParserFrame (f : AFrame) : Prop := ∀ p ∈ f.fields, p.1 ≠ [] ∧ p.1.all Spec.fieldNameChar = true

theorem listFields_ok (l : Fields) (h : ∀ p ∈ l, p.1 ≠ [] ∧ p.1.all Spec.fieldNameChar = true) :
    ∃ r, listFields l = .ok r := by
  induction l with
  | nil => exact ⟨[], rfl⟩
  | cons p ps ih =>
    obtain ⟨t, ht⟩ := C20.tryFrom_ok_of_fieldName p.1 (h p (List.mem_cons_self ..))
    obtain ⟨r, hr⟩ := ih (fun q hq => h q (List.mem_cons_of_mem _ hq))
    exact ⟨(t, p.2) :: r, by simp [listFields, ht, hr]⟩

/-- `List::from_frame` succeeds on every frame the parser can produce -/
theorem C12_list_total (t : Tag) (gs : List Tag) (f : AFrame) (h : ParserFrame f) :
    ∃ r, decList t gs f = .ok r := by
  obtain ⟨r, hr⟩ := listFields_ok f.fields h
  exact ⟨{ primary := t, groupings := gs, fields := r }, by simp [decList, hr]⟩

/-- … and the `unwrap` is live: a single key outside the alphabet makes it panic -/
theorem C12_list_unwrap_is_live (t : Tag) (gs : List Tag) (f : AFrame) (k v : Bytes)
    (hm : (k, v) ∈ f.fields) (hk : k = [] ∨ k.all Spec.fieldNameChar = false) : decList t gs f = .panic := by
  have hbad : ∀ t', Tag.tryFrom k ≠ .ok t' := by
    intro t' ht
    have := (Mpd.C20.C20_parse_accepts_iff k).mp ⟨t', ht⟩
    rw [Mpd.C20.tagChar_eq_fieldNameChar] at this
    rcases hk with hk | hk
    · exact this.1 hk
    · rw [this.2] at hk; cases hk
  have : listFields f.fields = .panic := by
    generalize f.fields = l at hm
    induction l with
    | nil => simp at hm
    | cons p ps ih =>
      simp only [List.mem_cons] at hm
      unfold listFields
      cases hp : Tag.tryFrom p.1 with
      | error e => rfl
      | ok t' =>
        simp only []
        rcases hm with hm | hm
        · subst hm; exact absurd hp (hbad t')
        · rw [ih hm]
  simp [decList, this]

/-- F3: a field that is neither the listed tag nor a grouping tag is skipped by
`GroupedListValuesIter::next` (it used to be `.position(..).unwrap()`) -/
theorem C12_grouped_iterator_skips (primary : Tag) (gs : List Tag) (tag : Tag) (v : Bytes)
    (rest : List (Tag × Bytes)) (cur : List Bytes)
    (h1 : tag.eq primary = false) (h2 : tagPosition tag gs = none) :
    groupedGo primary gs ((tag, v) :: rest) cur = groupedGo primary gs rest cur := by
  simp [groupedGo, h1, h2]

theorem playlistsGo_ne_panic (cur l out) : playlistsGo cur l out ≠ .panic := by
  fun_induction playlistsGo cur l out <;> simp_all

theorem C12_playlists_total (f : AFrame) : decPlaylists f ≠ .panic := playlistsGo_ne_panic _ _ _

theorem C12_stickerGet_total (f : AFrame) : decStickerGet f ≠ .panic := by
  unfold decStickerGet
  cases f.fields with
  | nil => simp
  | cons p _ =>
    simp only []
    split
    · simp
    · cases parseStickerValue p.2 <;> simp

theorem C12_stickerList_total (f : AFrame) : decStickerList f ≠ .panic := by
  unfold decStickerList
  rw [stickerListGo_eq, Ne, Outcome.map_eq_panic_iff]
  exact Outcome.all_map_ne_panic (fun _ => Outcome.ofOption_ne_panic _) _

theorem stickerFindGo_ne_panic (file l m) : stickerFindGo file l m ≠ .panic := by
  fun_induction stickerFindGo file l m <;> simp_all

theorem C12_stickerFind_total (f : AFrame) : decStickerFind f ≠ .panic := stickerFindGo_ne_panic _ _ _

theorem channelMessagesGo_ne_panic (l out) : channelMessagesGo l out ≠ .panic := by
  fun_induction channelMessagesGo l out <;> simp_all

theorem C12_channelMessages_total (f : AFrame) : decChannelMessages f ≠ .panic :=
  channelMessagesGo_ne_panic _ _

theorem C12_listChannels_total (f : AFrame) : decListChannels f ≠ .panic := by
  unfold decListChannels
  rw [listChannelsGo_eq]
  exact Outcome.all_map_ne_panic channelLine_ne_panic _

/-- a tag-type VALUE that is not a tag is an error, not an `unwrap` -/
theorem C12_tagTypes_total (f : AFrame) : decTagTypes f ≠ .panic := by
  unfold decTagTypes
  rw [tagTypesGo_eq]
  exact Outcome.all_map_ne_panic tagTypeLine_ne_panic _

theorem zipResponses_ne_panic {ρ} (cmds : List (AFrame → Outcome ρ)) (frames : List AFrame)
    (h : ∀ c ∈ cmds, ∀ f ∈ frames, c f ≠ .panic) : zipResponses cmds frames ≠ .panic :=
  zipResponses_eq cmds frames ▸ all_zipWith_ne_panic h

/-- `Vec<C>::responses`: any number of commands against any number of frames -/
theorem C12_vec_total {ρ} (cmds : List (AFrame → Outcome ρ)) (frames : List AFrame)
    (h : ∀ c ∈ cmds, ∀ f ∈ frames, c f ≠ .panic) : vecResponses cmds frames ≠ .panic := by
  unfold vecResponses
  split
  · simp
  · exact zipResponses_ne_panic cmds frames h

/-- a frame-count mismatch is a typed-response error (was `assert_eq!`) -/
theorem C12_vec_mismatch {ρ} (cmds : List (AFrame → Outcome ρ)) (frames : List AFrame)
    (h : cmds.length ≠ frames.length) : vecResponses cmds frames = .terr := by
  simp [vecResponses, h]

/-- tuples of any arity (the macro instances are arities 1–8): any number of frames -/
theorem C12_tuple_total {ρ} (cmds : List (AFrame → Outcome ρ)) (frames : List AFrame)
    (h : ∀ c ∈ cmds, ∀ f ∈ frames, c f ≠ .panic) : tupleResponses cmds frames ≠ .panic := by
  rw [tupleResponses_eq]
  intro hp
  rcases Outcome.bind_eq_panic_iff.mp hp with hall | ⟨rs, -, hif⟩
  · exact all_zipWith_ne_panic h hall
  · split at hif <;> cases hif

/-- fewer frames than commands is a typed-response error (was `frames.next().unwrap()`) -/
theorem C12_tuple_short {ρ} (cmds : List (AFrame → Outcome ρ)) (frames : List AFrame)
    (hp : ∀ c ∈ cmds, ∀ f ∈ frames, c f ≠ .panic) (h : frames.length < cmds.length) :
    tupleResponses cmds frames = .terr := by
  rw [tupleResponses_eq]
  cases hall : Outcome.all (List.zipWith (fun c f => c f) cmds frames) with
  | ok rs => simp [Nat.not_le.mpr h]
  | terr => rfl
  | panic => exact absurd hall (all_zipWith_ne_panic hp)

example : ParserFrame ⟨[(str "Album", str "x"), (str "x-custom_tag", []), (str "OK", str "1")], some []⟩ := by
  intro p hp
  simp only [List.mem_cons, List.not_mem_nil, or_false] at hp
  rcases hp with rfl | rfl | rfl <;> decide +kernel
example : decList (.named .Album) [] ⟨[(str "bad key", str "x")], none⟩ = .panic := by decide +kernel
example : decCountGrouped (.named .Album) ⟨[(str "Album", str "a"), (str "songs", str "1")], none⟩ = .terr := by
  decide +kernel
example : vecResponses [decUpdate, decUpdate] [⟨[(str "updating_db", str "1")], none⟩] = .terr := by decide +kernel
example : tupleResponses [decUpdate, decAddId] [⟨[(str "updating_db", str "1")], none⟩] = .terr := by decide +kernel
example : tupleResponses [decUpdate] [⟨[(str "updating_db", str "1")], none⟩, ⟨[], none⟩] = .ok [1] := by decide +kernel

end Mpd.C12
