import MpdProofs.Lemmas.CmdList
import Mpd.Client
/-!
# C13 (pairing half) — typed replies pair positionally

`responses` of `Vec<C>` and of tuples (after fix F4) hands the i-th frame of the reply to the
i-th command of the list, for every list length; so does the client-level model the correspondence run
uses (`C13_pair_client`). An empty typed list writes nothing.
-/
namespace Mpd.C13
open Mpd.Typed

/-- what positional pairing means: the outcomes are the commands applied to the frames index-wise -/
def pairwise {ρ} (cmds : List (AFrame → Outcome ρ)) (frames : List AFrame) : List (Outcome ρ) :=
  List.zipWith (fun c f => c f) cmds frames

/-- **Vec**: a successful typed result is, index by index, the i-th command's decoding of the i-th
frame; the frame count must match -/
theorem C13_pair_vec {ρ} (cmds : List (AFrame → Outcome ρ)) (frames : List AFrame) (rs : List ρ)
    (h : vecResponses cmds frames = .ok rs) :
    cmds.length = frames.length ∧ pairwise cmds frames = rs.map .ok := by
  unfold vecResponses at h
  split at h
  · simp at h
  · rename_i hl
    exact ⟨by simpa using hl, Outcome.all_eq_ok_iff.mp (zipResponses_eq cmds frames ▸ h)⟩

/-- the converse -/
theorem C13_pair_vec_complete {ρ} (cmds : List (AFrame → Outcome ρ)) (frames : List AFrame) (rs : List ρ)
    (hl : cmds.length = frames.length) (h : pairwise cmds frames = rs.map .ok) :
    vecResponses cmds frames = .ok rs := by
  rw [vecResponses, if_neg (by simpa using hl), zipResponses_eq]
  exact Outcome.all_eq_ok_iff.mpr h

/-- **tuples** (arity = number of commands): frames beyond the arity are ignored, fewer is an error -/
theorem C13_pair_tuple {ρ} (cmds : List (AFrame → Outcome ρ)) (frames : List AFrame) (rs : List ρ)
    (h : tupleResponses cmds frames = .ok rs) :
    cmds.length ≤ frames.length ∧ pairwise cmds frames = rs.map .ok := by
  rw [tupleResponses_eq, Outcome.bind_eq_ok_iff] at h
  obtain ⟨rs', hall, h⟩ := h
  split at h
  · rename_i hle
    cases h
    exact ⟨hle, Outcome.all_eq_ok_iff.mp hall⟩
  · cases h

/-- echo commands never fail, so the list fails only by running out of frames (`[60]` is the `<` that
`Client.echoResponse` puts between name and value) -/
theorem typedResponses_go_eq (names : List Bytes) (frames : List AFrame) :
    Client.typedResponses.go names frames =
      if names.length ≤ frames.length then
        some (List.zipWith (fun n f => n ++ [60] ++ ((f.find (str "line")).getD (str "?"))) names frames)
      else none := by
  induction names generalizing frames with
  | nil => simp [Client.typedResponses.go]
  | cons n ns ih =>
    cases frames with
    | nil => simp [Client.typedResponses.go]
    | cons f fs =>
      simp only [Client.typedResponses.go, Client.echoResponse, ih, List.length_cons, Nat.add_le_add_iff_right]
      split <;> simp

/-- the client-level model used by the correspondence run (`Client::command_list` over echo
commands): the i-th item is built from the i-th name and the i-th frame -/
theorem C13_pair_client (isVec : Bool) (names : List Bytes) (frames : List AFrame) (items : List Bytes)
    (h : Client.typedResponses isVec names frames = some items) :
    names.length ≤ frames.length ∧ (isVec = true → names.length = frames.length) ∧
    items = List.zipWith (fun n f => n ++ [60] ++ ((f.find (str "line")).getD (str "?"))) names frames := by
  unfold Client.typedResponses at h
  split at h
  · simp at h
  · rename_i hv
    rw [typedResponses_go_eq] at h
    split at h
    · rename_i hle
      refine ⟨hle, fun hv' => ?_, (Option.some.inj h).symm⟩
      simpa [hv'] using hv
    · simp at h

/-- an empty typed list leaves the write queue as it is (`Client::command_list` sends nothing) -/
example (w : Client.World) (rid : Nat) (isVec : Bool) :
    (Client.apply w (.enqueueTyped rid isVec [])).st.queue = w.st.queue := by
  simp [Client.apply, Client.finish]

example : Client.typedResponses true [str "a", str "b"]
    [{ fields := [(str "line", str "1")] }, { fields := [(str "line", str "2")] }] = some [str "a<1", str "b<2"] := by
  decide +kernel

end Mpd.C13
