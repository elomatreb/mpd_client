import Mpd.Commands
import MpdSpec.Requests
import MpdProofs.Lemmas.Commands
import MpdProofs.Lemmas.Requests
import MpdProofs.Lemmas.F64Round
/-!
# C15 — predefined commands render to the documented MPD request for all parameters

For every predefined command and every value of its parameters, the request written is the MPD command
documented for it, with arguments denoting the same values: ranges the same set of queue positions as the Rust
value (saturating at the integer maximum instead of overflowing), durations within 1 ms, clamped values inside
MPD's domain, each string parameter exactly one argument in the documented position.

Model: `Mpd.Commands.command : PCmd → Outcome Bytes` (one `PCmd` constructor per builder path).
Specification: `Spec.Req.expect` (command word + meaning of each argument, written from the
protocol reference), `Spec.Req.ArgSem.accepts` (reads a token back), `Spec.Tok` (MPD's tokenizer).
Partial: `safe` leaves out K1 strings, K2 filters and K4 durations (2^43 s and more).
-/
namespace Mpd.C15
open Mpd.Cmd Mpd.Commands Mpd.CmdsL Mpd.ReqL Spec.Req Spec.Tok Mpd.TokL

/-- precondition of `C15`: numeric parameters are values of their Rust types, no documented constructor
panic, strings accepted by the builder and outside K1, tag names `Tag::try_from` accepts, filters as in
`C11_partial` (outside K2, no LF/NUL), every duration sent as a time rendered within 1 ms (`durOk`) -/
def safe (c : PCmd) : Bool :=
  c.typed && !(ctorPanics c) && c.strings.all strOk && c.tags.all tagOk &&
    c.filters.all filterOk && c.durs.all durOk

example (a b v : Bytes) : (PCmd.stickerSet a b v).strings = [a, b, v] := rfl
example (u : Bytes) (t g : Tag) (f : FilterType) :
    (PCmd.list t (some f) [g]).tags = [t, g] ∧ (PCmd.list t (some f) [g]).filters = [f] ∧
    (PCmd.add u none).strings = [u] := ⟨rfl, rfl, rfl⟩
example (s : Song) (d : Dur) : (PCmd.seekTo s d).durs = [d] ∧ (PCmd.crossfade d).durs = [] := by
  cases s <;> exact ⟨rfl, rfl⟩

theorem shape_ok (c : PCmd) (hs : ∀ s ∈ c.strings, strOk s = true) (ht : ∀ t ∈ c.tags, tagOk t = true)
    (hf : ∀ f ∈ c.filters, filterOk f = true) : ∀ p ∈ (shape c).2, p.ok = true := by
  intro p hp
  cases p with
  | str s => exact hs s (mem_strings.mpr hp)
  | kw w => exact decide_eq_true (shape_kw_plain hp)
  | tag t => exact ht t (mem_tags.mpr (.inl hp))
  | sortTag t => exact ht t (mem_tags.mpr (.inr hp))
  | filter f => exact hf f (mem_filters.mpr hp)
  | _ => rfl

/-- **C15.** For every safe value of every predefined command: `command()` does not panic and yields a line;
MPD's tokenizer reads that line as the documented command word and tokens `toks`, and what
`Connection::send` writes is exactly that one request; there is one token per documented argument and each
means what the protocol reference says for this command and these parameters (`acceptsAll`). -/
theorem C15 (c : PCmd) (h : safe c = true) :
    ∃ line toks, command c = .ok line ∧
      tokenizeLine line = some ((expect c).1, toks) ∧
      tokenizeStream (sendBytes line) = some [some ((expect c).1, toks)] ∧
      acceptsAll (expect c).2 toks = true := by
  simp only [safe, Bool.and_eq_true, Bool.not_eq_true', List.all_eq_true] at h
  obtain ⟨⟨⟨⟨⟨hty, hctor⟩, hs⟩, ht⟩, hf⟩, hd⟩ := h
  obtain ⟨line, h1, h2, h3⟩ := assemble_tokenize (shape_nameOk c) (shape c).2 (shape_ok c hs ht hf)
  refine ⟨line, (shape c).2.map Part.tok, ?_, ?_, ?_, accepts_shape c hty hf hd⟩
  · rw [command_eq_assemble c hctor]; exact h1
  · rw [expect_name]; exact h2
  · rw [expect_name]; exact h3

/-- as the Boolean verdict the correspondence oracle evaluates on the implementation's bytes -/
theorem C15_verdict (c : PCmd) (h : safe c = true) :
    ∃ line name toks, command c = .ok line ∧
      tokenizeStream (sendBytes line) = some [some (name, toks)] ∧ satisfiedBy c name toks = true := by
  obtain ⟨line, toks, h1, _, h3, h4⟩ := C15 c h
  exact ⟨line, _, toks, h1, h3, by simp [satisfiedBy, h4]⟩

/-- **C15 (panics).** For filters the API can build, `command()` panics iff the constructor panics
(documented: `Move::range` with an open end, `TagTypes::enable` / `disable` with an empty list) or some
string, tag name, or filter tag / value contains LF or NUL (documented for `Command::argument`). -/
theorem C15_panic_iff (c : PCmd) (hwf : ∀ f ∈ c.filters, Filter.wf f = true) :
    command c = .panic ↔
      ctorPanics c = true ∨ (∃ s ∈ c.strings, ¬ C06.accepted s) ∨ (∃ t ∈ c.tags, ¬ C06.accepted t.name) ∨
        (∃ f ∈ c.filters, Filter.hasForbidden f = true) := by
  by_cases hc : ctorPanics c = true
  · simp [hc, command_ctorPanics c hc]
  · have hc' : ctorPanics c = false := by simpa using hc
    rw [command_eq_assemble c hc', assemble_panic_iff (shape_nameOk c)]
    simp only [hc', Bool.false_eq_true, false_or]
    constructor
    · rintro ⟨p, hp, hbad⟩
      cases p with
      | str s => exact .inl ⟨s, mem_strings.mpr hp, (bad_str s).mp hbad⟩
      | tag t => exact .inr (.inl ⟨t, mem_tags.mpr (.inl hp), (bad_tag t).mp hbad⟩)
      | sortTag t => exact .inr (.inl ⟨t, mem_tags.mpr (.inr hp), (bad_sortTag t).mp hbad⟩)
      | filter f =>
        have hm := mem_filters.mpr hp
        exact .inr (.inr ⟨f, hm, (bad_filter (hwf f hm)).mp hbad⟩)
      | kw w => exact absurd hbad (Part.ok_not_bad (p := .kw w) (decide_eq_true (shape_kw_plain hp)))
      | _ => exact absurd hbad (Part.ok_not_bad rfl)
    · rintro (⟨s, hs, hbad⟩ | ⟨t, ht, hbad⟩ | ⟨f, hf, hbad⟩)
      · exact ⟨_, mem_strings.mp hs, (bad_str _).mpr hbad⟩
      · rcases mem_tags.mp ht with h | h
        · exact ⟨_, h, (bad_tag _).mpr hbad⟩
        · exact ⟨_, h, (bad_sortTag _).mpr hbad⟩
      · exact ⟨_, mem_filters.mp hf, (bad_filter (hwf _ hf)).mpr hbad⟩

/-- the specification's range reader sees `lo:hi` / `lo:` of `SongRange::new_usize` -/
theorem C15_range_rendered (s e : Bound) :
    readRange (SongRange.newUsize s e).render = some ((SongRange.newUsize s e).lo, (SongRange.newUsize s e).hi) ∧
    SongRange.new s e = SongRange.newUsize s e :=
  ⟨readRange_render _, new_eq_newUsize s e⟩

/-- **C15 (ranges).** For the three kinds of bound on each side (`Included` / `Excluded` / `Unbounded`; a
plain position `p..=p` is `Included`/`Included`) and every position below the integer maximum: the position
is in the rendered `START:END` / `START:` iff it is in the Rust range (`RangeBounds::contains`). -/
theorem C15_range (s e : Bound) (hs : s.typed = true) (he : e.typed = true) (p : Nat) (hp : p < U64MAX) :
    rangeDenote (SongRange.newUsize s e).lo (SongRange.newUsize s e).hi p ↔ boundsContain s e p := by
  rw [newUsize_eq_clamp s e hs he, rangeDenote_clamp _ _ _ _ hp, rangeDenote_exact]

/-- the same for the `SongPosition` flavour (`SongRange::new`) -/
theorem C15_range_new (s e : Bound) (hs : s.typed = true) (he : e.typed = true) (p : Nat) (hp : p < U64MAX) :
    rangeDenote (SongRange.new s e).lo (SongRange.new s e).hi p ↔ boundsContain s e p := by
  rw [new_eq_newUsize]; exact C15_range s e hs he p hp

/-- at `p = usize::MAX`, the only position saturation can affect, the two differ exactly for `(_, ..=MAX)`
with a start other than `Excluded(MAX)` (rendered `a:MAX` loses position MAX) and for `(Excluded(MAX), ..)`
(rendered `MAX:` gains it) -/
theorem C15_range_at_max (s e : Bound) (hs : s.typed = true) (he : e.typed = true) :
    (rangeDenote (SongRange.newUsize s e).lo (SongRange.newUsize s e).hi U64MAX ↔ e = .unbounded) ∧
    (boundsContain s e U64MAX ↔ s ≠ .excluded U64MAX ∧ (e = .unbounded ∨ e = .included U64MAX)) := by
  constructor
  · rw [newUsize_eq_clamp s e hs he, rangeDenote_clamp_max]
    cases e <;> simp [exactHi]
  · -- start and end separately: three cases each
    refine and_congr ?_ ?_
    · cases s <;> simp only [Bound.typed, decide_eq_true_eq] at hs <;>
        simp only [ne_eq, Bound.excluded.injEq, reduceCtorEq, not_false_eq_true, iff_true] <;> omega
    · cases e <;> simp only [Bound.typed, decide_eq_true_eq] at he <;>
        simp only [Bound.included.injEq, reduceCtorEq, or_false, false_or, iff_false] <;> omega

/-- the form `ArgSem.accepts` uses: equal position sets below the maximum -/
theorem C15_range_canon (s e : Bound) (hs : s.typed = true) (he : e.typed = true) :
    canon U64MAX (SongRange.newUsize s e).lo (SongRange.newUsize s e).hi =
      canon U64MAX (exactLo s) (exactHi e) := canon_newUsize s e hs he

/-- **inverted ranges.** A rendered range that MPD rejects as malformed (`END < START`) can only come from a
Rust range that contains no position at all; such empty Rust ranges are not normalised to a well-formed
empty range (the witnesses below). -/
theorem C15_range_malformed_empty (s e : Bound) (hs : s.typed = true) (he : e.typed = true)
    (h : wellFormedRange (SongRange.newUsize s e).lo (SongRange.newUsize s e).hi = false) :
    ∀ p, ¬ boundsContain s e p := by
  intro p hc
  rw [newUsize_eq_clamp s e hs he] at h
  exact empty_of_malformed_clamp h p ((rangeDenote_exact s e p).mpr hc)

theorem C15_range_wellFormed (s e : Bound) (hs : s.typed = true) (he : e.typed = true)
    (h : ∀ b, exactHi e = some b → exactLo s ≤ b) :
    wellFormedRange (SongRange.newUsize s e).lo (SongRange.newUsize s e).hi = true := by
  rw [newUsize_eq_clamp s e hs he]
  exact wellFormed_clamp h

/-- witness: `5..3` is rendered `5:3` (MPD: "Malformed range"), `(Excluded(5), Excluded(5))` as `6:5` -/
theorem C15_range_inverted_witness :
    (SongRange.newUsize (.included 5) (.excluded 3)).render = str "5:3" ∧
    wellFormedRange 5 (some 3) = false ∧
    (SongRange.newUsize (.excluded 5) (.excluded 5)).render = str "6:5" ∧
    wellFormedRange 6 (some 5) = false ∧
    command (.deleteRange (.included 5) (.excluded 3)) = .ok (str "delete 5:3") := by
  repeat rw [str_ofList]
  decide +kernel

/-- `..=MAX` renders `0:MAX` (the crate's test `range_arg`), `MAX..=MAX` the empty `MAX:MAX`,
`(Excluded(MAX), ..)` renders `MAX:` -/
theorem C15_range_max_witness :
    (SongRange.newUsize .unbounded (.included U64MAX)).render = str "0:18446744073709551615" ∧
    (SongRange.newUsize (.included U64MAX) (.included U64MAX)).render =
      str "18446744073709551615:18446744073709551615" ∧
    (SongRange.newUsize (.excluded U64MAX) .unbounded).render = str "18446744073709551615:" := by
  repeat rw [str_ofList]
  decide +kernel

theorem command_line (c : PCmd) (hc : ctorPanics c = false) (hp : ∀ p ∈ (shape c).2, ¬ p.bad) :
    command c = .ok ((shape c).1 ++ encArgs ((shape c).2.map Part.rendered)) := by
  rw [command_eq_assemble c hc, assemble_ok (shape_nameOk c) hp]

/-- **C15 (setvol).** The rendered volume is at most 100, and is the given one when that is ≤ 100 -/
theorem C15_setvol (v : Nat) :
    ∃ n, command (.setVolume v) = .ok (str "setvol" ++ SPACE :: natToDec n) ∧ n ≤ 100 ∧ (v ≤ 100 → n = v) := by
  have := command_line (.setVolume v) rfl (by simpa [shape] using Part.ok_not_bad rfl)
  exact ⟨min v 100, by simpa [shape, Part.rendered, Part.render, renderNat] using this, Nat.min_le_right _ _,
    fun h => Nat.min_eq_left h⟩

/-- **C15 (crossfade).** The argument is the whole seconds `⌊d⌋` (`Duration::as_secs`) -/
theorem C15_crossfade (d : Dur) :
    command (.crossfade d) = .ok (str "crossfade" ++ SPACE :: natToDec d.secs) := by
  have := command_line (.crossfade d) rfl (by simpa [shape] using Part.ok_not_bad rfl)
  simpa [shape, Part.rendered, Part.render, renderNat] using this

/-- `durOk`: the thousandths printed by `{:.3}` of `as_secs_f64()` are within 1 ms of the exact duration -/
theorem durOk_iff (d : Dur) : durOk d = true ↔
    F64.millisRendered d.secs d.nanos * 1000000 ≤ nanosOf d + 1000000 ∧
    nanosOf d ≤ F64.millisRendered d.secs d.nanos * 1000000 + 1000000 := by
  simp [durOk, within1ms]

/-- **C15 (durations, the class `durOk`).** What is sent for a `Duration` is the decimal `S.mmm` with thousandths
`millisRendered`; within `durOk` the specification's reader accepts it as the exact duration within 1 ms. -/
theorem C15_seek_duration_partial (d : Dur) (h : durOk d = true) :
    readDecimal d.render = some (F64.millisRendered d.secs d.nanos, 3) ∧
    (ArgSem.time none (nanosOf d)).accepts d.render = true :=
  ⟨readDecimal_renderDuration _ _, accepts_dur d h⟩

/-- **C15 (durations).** Every `Duration` below 2^43 s (≈ 279 000 years), that is outside the known-finding
class K4, is rendered within 1 ms of its exact value: the error analysis of
`write!("{:.3}", d.as_secs_f64())` on the exact binary64 emulation, `F64L.millisRendered_within`.  2^43 is
sharp: `C15_K4_witness`. -/
theorem C15_seek_duration (d : Dur) (ht : d.typed = true) (hk : d.isK4 = false) : durOk d = true := by
  simp only [Dur.typed, Bool.and_eq_true, decide_eq_true_eq] at ht
  simp only [Dur.isK4, decide_eq_false_iff_not, ge_iff_le, Nat.not_le] at hk
  rw [durOk_iff]
  have := F64L.millisRendered_within d.secs d.nanos (by simpa using hk) ht.2
  simpa [nanosOf] using this

/-- `safe` from the class predicates alone: `isK1` for `strOk`, `isK4` for `durOk` -/
theorem C15_safe_of_classes (c : PCmd) (ht : c.typed = true) (hp : ctorPanics c = false)
    (hs : ∀ s ∈ c.strings, C06.accepted s ∧ isK1 s = false) (htag : ∀ t ∈ c.tags, tagOk t = true)
    (hf : ∀ f ∈ c.filters, filterOk f = true) (hd : ∀ d ∈ c.durs, d.isK4 = false) : safe c = true := by
  simp only [safe, Bool.and_eq_true, Bool.not_eq_true', List.all_eq_true]
  refine ⟨⟨⟨⟨⟨ht, hp⟩, ?_⟩, htag⟩, hf⟩, ?_⟩
  · intro s hsm
    simp only [strOk, Bool.and_eq_true, decide_eq_true_eq, Bool.not_eq_true']
    exact hs s hsm
  · intro d hdm
    exact C15_seek_duration d (durs_typed c ht d hdm) (hd d hdm)

/-- **C15 (durations, the decimal rounding step, all durations).** The printed thousandths `t` are the
round-half-even of 1000 × the binary64 value `h` of `as_secs_f64()`: `|t − 1000·h| ≤ 1/2`.  The other step,
`|h − exact seconds|`, is at most 2^-11 s below 2^43 s; from there on the binary spacing is 2^-9 s and the
total can exceed 1 ms (K4). -/
theorem C15_seek_duration_rounding (d : Dur) :
    let h := F64L.asSecsF64 d.secs d.nanos
    let t := F64.millisRendered d.secs d.nanos
    2 * (t * h.den) ≤ 2 * (h.num * 1000) + h.den ∧ 2 * (h.num * 1000) ≤ 2 * (t * h.den) + h.den :=
  F64.rhe_err _ _ (F64.den_pos _)

/-- K4 is real: `Duration::new(u64::MAX, 0)` is rendered `18446744073709551616.000` (one second too much),
`Duration::new(12564216744490, 928_849_251)` (between 2^43 s and 2^44 s) as `12564216744490.930` (1.15 ms
too much) -/
theorem C15_K4_witness :
    (Dur.mk U64MAX 0).render = str "18446744073709551616.000" ∧ durOk ⟨U64MAX, 0⟩ = false ∧
    (Dur.mk 12564216744490 928849251).render = str "12564216744490.930" ∧
    durOk ⟨12564216744490, 928849251⟩ = false ∧ Dur.isK4 ⟨12564216744490, 928849251⟩ = true ∧
    Dur.isK4 ⟨8796093022207, 999999999⟩ = false := by
  repeat rw [str_ofList]
  decide +kernel

theorem SingleMode.mem_all (m : SingleMode) : m ∈ SingleMode.all := by cases m <;> decide
theorem ReplayGainMode.mem_all (m : ReplayGainMode) : m ∈ ReplayGainMode.all := by cases m <;> decide
theorem StickerFindOperator.mem_all (m : StickerFindOperator) : m ∈ StickerFindOperator.all := by
  cases m <;> decide

section
-- the derived equality test of `Outcome` is slow to evaluate; this one compares the lines
local instance (priority := high) {α : Type} [DecidableEq α] : DecidableEq (Outcome α)
  | .ok a, .ok b => if h : a = b then isTrue (h ▸ rfl) else isFalse fun e => h (Outcome.ok.inj e)
  | .panic, .panic => isTrue rfl
  | .ok _, .panic => isFalse fun e => nomatch e
  | .panic, .ok _ => isFalse fun e => nomatch e

theorem C15_single_spelling :
    command (.setSingle .disabled) = .ok (str "single 0") ∧
    command (.setSingle .enabled) = .ok (str "single 1") ∧
    command (.setSingle .oneshot) = .ok (str "single oneshot") ∧
    ∀ a ∈ SingleMode.all, ∀ b ∈ SingleMode.all, command (.setSingle a) = command (.setSingle b) → a = b := by
  repeat rw [str_ofList]
  decide +kernel

theorem C15_replay_gain_spelling :
    command (.setReplayGainMode .off) = .ok (str "replay_gain_mode off") ∧
    command (.setReplayGainMode .track) = .ok (str "replay_gain_mode track") ∧
    command (.setReplayGainMode .album) = .ok (str "replay_gain_mode album") ∧
    command (.setReplayGainMode .auto) = .ok (str "replay_gain_mode auto") ∧
    ∀ a ∈ ReplayGainMode.all, ∀ b ∈ ReplayGainMode.all,
      command (.setReplayGainMode a) = command (.setReplayGainMode b) → a = b := by
  repeat rw [str_ofList]
  decide +kernel

theorem C15_sticker_op_spelling :
    command (.stickerFind (str "u") (str "n") (some (.equals, str "v"))) = .ok (str "sticker find song u n = v") ∧
    command (.stickerFind (str "u") (str "n") (some (.lessThan, str "v"))) = .ok (str "sticker find song u n < v") ∧
    command (.stickerFind (str "u") (str "n") (some (.greaterThan, str "v"))) = .ok (str "sticker find song u n > v") ∧
    (∀ a ∈ StickerFindOperator.all, ∀ b ∈ StickerFindOperator.all, a.keyword = b.keyword → a = b) ∧
    command (.setPause true) = .ok (str "pause 1") ∧ command (.setPause false) = .ok (str "pause 0") := by
  repeat rw [str_ofList]
  decide +kernel

end

theorem hasLfNul_iff (s : Bytes) : hasLfNul s = true ↔ ¬ C06.accepted s := by
  show s.any Filter.isForbidden = true ↔ ¬ Clean s
  simp [clean_iff]

/-- `docPanic` (evaluated by the driver) is exactly the right-hand side of `C15_panic_iff` -/
theorem C15_panic_iff_docPanic (c : PCmd) (hwf : ∀ f ∈ c.filters, Filter.wf f = true) :
    command c = .panic ↔ docPanic c = true := by
  rw [C15_panic_iff c hwf]
  simp only [docPanic, Bool.or_eq_true, List.any_eq_true, hasLfNul_iff, or_assoc]

def exFind : PCmd :=
  .find (Filter.tag (.named .Artist) (str "foo bar")) (some (.named .Album)) (some (.included 2, .included 5))

example : safe exFind = true := by decide +kernel
example : command exFind = .ok (str "find \"(Artist == \\\"foo bar\\\")\" sort Album window 2:6") := by
  rw [str_ofList]
  decide +kernel

def exMove : PCmd := .move (.range (.included 3) (.excluded 5)) (.afterCurrent 2)

example : safe exMove = true := by decide +kernel
example : command exMove = .ok (str "move 3:5 +2") := by rw [str_ofList]; decide +kernel

/-- `SeekTo` with 62.5 ms (a tie of the decimal rounding; binary64 holds 0.0625 exactly) -/
def exSeek : PCmd := .seekTo (.id 2) ⟨0, 62500000⟩

example : safe exSeek = true := by decide +kernel
example : command exSeek = .ok (str "seekid 2 0.062") := by rw [str_ofList]; decide +kernel

def exSticker : PCmd := .stickerFind (str "a b/c d.mp3") [] (some (.lessThan, [0xc3, 0xa9, 0x20]))

example : safe exSticker = true := by decide +kernel
example : command exSticker = .ok (str "sticker find song \"a b/c d.mp3\" \"\" < " ++ [34, 0xc3, 0xa9, 0x20, 34]) := by
  rw [str_ofList]
  decide +kernel

example : command (.add (str "a\nb") none) = .panic ∧ docPanic (.add (str "a\nb") none) = true ∧
    command (.move (.range (.included 1) .unbounded) (.absolute 0)) = .panic ∧
    command (.tagTypesEnable []) = .panic := by decide +kernel

/-- outside `safe`: a K1 string is sent backslash-escaped but unquoted (known finding of C06) -/
example : safe (.deletePlaylist (str "Joe's")) = false ∧
    command (.deletePlaylist (str "Joe's")) = .ok (str "rm Joe\\'s") := by
  repeat rw [str_ofList]
  decide +kernel

end Mpd.C15
