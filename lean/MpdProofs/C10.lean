import MpdProofs.C03
import MpdProofs.Lemmas.Sticky
/-!
# C10 — end of stream is clean only on a response boundary

For well-formed server output, both flavours, every segmentation (via C02); the cut may be inside a key, a value, a
binary header, a payload, between the frames of a list. The end is sticky: an unclean end never turns into a clean one.
-/
namespace Mpd.C10
open Mpd.Builder Mpd.Conn Mpd.C03

/-- a non-empty proper prefix of a well-formed response leaves the receive pending with the builder in progress or bytes
unconsumed: exactly the two disjuncts of the EOF test -/
theorem prefix_pending (r : Spec.AbsResp) (p q : Bytes) (hwf : Spec.WF r = true)
    (hpq : Spec.enc r = p ++ q) (hp : p ≠ []) (hq : q ≠ []) :
    (feed .initial p).2.2 = .pending ∧
      ((feed .initial p).1 ≠ .initial ∨ (feed .initial p).2.1 ≠ []) := by
  have hfull := C03_response r [] hwf
  rw [List.append_nil, hpq] at hfull
  rcases feed_pending_or_final .initial p with ⟨σ', rest, hf⟩ | ⟨σ', rest, out, hf, ho⟩
  · have hin := feed_pending_inProgress .initial p
    rw [hf] at hin ⊢
    refine ⟨rfl, ?_⟩
    by_cases hrest : rest = []
    · exact .inl (hin rfl (.inl (by rw [hrest]; exact List.length_pos_iff.mpr hp)))
    · exact .inr hrest
  · -- a result that is final on `p` would leave `q` unconsumed after the whole response
    rw [feed_append_of_final hf ho q] at hfull
    have : rest ++ q = [] := (Prod.mk.inj (Prod.mk.inj hfull).2).1
    exact absurd (List.append_eq_nil_iff.mp this).2 hq

/-- **C10 (clean)**: EOF exactly after complete responses is a clean close -/
theorem C10_clean (fuel : Nat) (rs : List Spec.AbsResp) (hwf : ∀ r ∈ rs, Spec.WF r = true) :
    decodeAll (fuel + 1 + rs.length) (rs.flatMap Spec.enc) .eof = rs.map viewItem ++ [.clean] :=
  C03_stream_end fuel rs .eof hwf

/-- **C10 (unclean)**: EOF inside a response, at ANY cut position, is an unexpected-EOF error after the complete responses -/
theorem C10_unclean (fuel : Nat) (rs : List Spec.AbsResp) (r : Spec.AbsResp) (p q : Bytes)
    (hwf : ∀ x ∈ rs, Spec.WF x = true) (hr : Spec.WF r = true)
    (hpq : Spec.enc r = p ++ q) (hp : p ≠ []) (hq : q ≠ []) :
    decodeAll (fuel + 1 + rs.length) (rs.flatMap Spec.enc ++ p) .eof = rs.map viewItem ++ [.unexpectedEof] := by
  rw [C03_stream (fuel + 1) rs p .eof hwf, decodeAll]
  obtain ⟨hpend, hor⟩ := prefix_pending r p q hr hpq hp hq
  rcases hf : feed .initial p with ⟨σ', rest, out⟩
  rw [hf] at hpend hor
  simp only at hpend hor
  subst hpend
  simp only [termItem]
  rw [eofItem_unclean (hor.imp (fun h => bne_iff_ne.mpr h) id)]

/-- both connections, every segmentation into non-empty reads -/
theorem C10_unclean_async (fuel : Nat) (rs : List Spec.AbsResp) (r : Spec.AbsResp) (p q : Bytes)
    (chunks : List Bytes) (hne : NonEmptyChunks chunks)
    (hwf : ∀ x ∈ rs, Spec.WF x = true) (hr : Spec.WF r = true)
    (hpq : Spec.enc r = p ++ q) (hp : p ≠ []) (hq : q ≠ [])
    (hflat : chunks.flatten = rs.flatMap Spec.enc ++ p) :
    sessionA (fuel + 1 + rs.length) 0 .initial [] chunks .eof = rs.map viewItem ++ [.unexpectedEof] := by
  rw [C02.C02_async _ [] chunks .eof hne, List.nil_append, hflat]
  exact C10_unclean fuel rs r p q hwf hr hpq hp hq

theorem C10_unclean_sync (fuel : Nat) (rs : List Spec.AbsResp) (r : Spec.AbsResp) (p q : Bytes)
    (chunks : List Bytes) (hne : NonEmptyChunks chunks)
    (hwf : ∀ x ∈ rs, Spec.WF x = true) (hr : Spec.WF r = true)
    (hpq : Spec.enc r = p ++ q) (hp : p ≠ []) (hq : q ≠ [])
    (hflat : chunks.flatten = rs.flatMap Spec.enc ++ p) :
    sessionS (fuel + 1 + rs.length) 0 .initial { cap := DEFAULT_CAP, data := [] } chunks .eof =
      rs.map viewItem ++ [.unexpectedEof] := by
  rw [C02.C02_sync _ _ chunks .eof hne C02.fresh_inv, List.nil_append, hflat]
  exact C10_unclean fuel rs r p q hwf hr hpq hp hq

theorem C10_clean_async (fuel : Nat) (rs : List Spec.AbsResp) (chunks : List Bytes)
    (hne : NonEmptyChunks chunks) (hwf : ∀ r ∈ rs, Spec.WF r = true)
    (hflat : chunks.flatten = rs.flatMap Spec.enc) :
    sessionA (fuel + 1 + rs.length) 0 .initial [] chunks .eof = rs.map viewItem ++ [.clean] := by
  rw [C02.C02_async _ [] chunks .eof hne, List.nil_append, hflat]
  exact C10_clean fuel rs hwf

theorem C10_clean_sync (fuel : Nat) (rs : List Spec.AbsResp) (chunks : List Bytes)
    (hne : NonEmptyChunks chunks) (hwf : ∀ r ∈ rs, Spec.WF r = true)
    (hflat : chunks.flatten = rs.flatMap Spec.enc) :
    sessionS (fuel + 1 + rs.length) 0 .initial { cap := DEFAULT_CAP, data := [] } chunks .eof = rs.map viewItem ++ [.clean] := by
  rw [C02.C02_sync _ _ chunks .eof hne C02.fresh_inv, List.nil_append, hflat]
  exact C10_clean fuel rs hwf

/-- **the end is sticky** (async): `extra` further calls after the end repeat it -/
theorem C10_end_is_sticky (extra : Nat) (σ : BState) (buf : Bytes) (term : Term)
    (h : ∀ r, (recvLoopA σ buf [] term).1 ≠ .resp r) :
    sessionA (extra + 1) extra σ buf [] term = List.replicate (extra + 1) (recvLoopA σ buf [] term).1 :=
  sessionA_sticky extra σ buf term h

/-- **the end is sticky** (blocking): the same, for any buffer within its capacity (every buffer `recvLoopS` leaves is) -/
theorem C10_end_is_sticky_blocking (extra : Nat) (σ : BState) (b : SBuf) (term : Term)
    (hcap : ¬ b.cap < b.data.length) (h : ∀ r, (recvS σ b [] term).1 ≠ .resp r) :
    sessionS (extra + 1) extra σ b [] term = List.replicate (extra + 1) (recvS σ b [] term).1 :=
  sessionS_sticky extra σ b term hcap h

example : sessionS 3 2 .initial { cap := DEFAULT_CAP, data := str "foo: bar\n" } [] .eof =
    [.unexpectedEof, .unexpectedEof, .unexpectedEof] := by
  rw [str_ofList]
  decide +kernel

/-- **invalid data is final**: once a call has reported an invalid message, every later call on the connection reports
it again and consumes nothing, whatever the transport still delivers (`cs'`) and however it ends (`t'`): no later
caller is handed what was left of the rejected reply -/
theorem C10_invalid_is_final_async (cs : List Bytes) (t : Term) (σ : BState) (buf : Bytes)
    (h : (recvLoopA σ buf cs t).1 = .invalid) (cs' : List Bytes) (t' : Term) :
    (recvLoopA (recvLoopA σ buf cs t).2.2.2 (recvLoopA σ buf cs t).2.1 cs' t').1 = .invalid := by
  rw [recvLoopA_invalid_forever cs t σ buf h cs' t']

theorem C10_invalid_is_final_blocking (f : Nat) (cs : List Bytes) (t : Term) (σ : BState) (b : SBuf)
    (h : (recvLoopS f σ b cs t).1 = .invalid) (f' : Nat) (cs' : List Bytes) (t' : Term) :
    (recvLoopS (f' + 1) (recvLoopS f σ b cs t).2.2.2 (recvLoopS f σ b cs t).2.1 cs' t').1 = .invalid := by
  rw [recvLoopS_invalid_forever f cs t σ b h f' cs' t']

/-- non-vacuity: a key with a digit inside a reply; the rest of that reply and a complete further response arrive
afterwards and are never delivered -/
example : (recvLoopA .initial [] [str "Artist: x\nMP3GAIN_MINMAX: 1\n"] .eof).1 = .invalid ∧
    (recvLoopA (recvLoopA .initial [] [str "Artist: x\nMP3GAIN_MINMAX: 1\n"] .eof).2.2.2
      (recvLoopA .initial [] [str "Artist: x\nMP3GAIN_MINMAX: 1\n"] .eof).2.1
      [str "Title: y\nOK\n", str "volume: 1\nOK\n"] .eof).1 = .invalid := by
  repeat rw [str_ofList]
  decide +kernel

/-- e.g. a stream that ended after a complete field line: unexpected EOF, three times in a row -/
example : sessionA 3 2 .initial (str "foo: bar\n") [] .eof = [.unexpectedEof, .unexpectedEof, .unexpectedEof] := by
  rw [str_ofList]
  decide +kernel

/-! non-vacuity: the case the crate's tests miss — a partial line and nothing else -/
example : decodeAll 4 (str "OK") .eof = [.unexpectedEof] := by
  have h := C10_unclean 3 [] { listForm := false, frames := [{ fields := [] }] } (str "OK") (str "\n")
    (by simp) (by decide +kernel) (by decide +kernel) (by decide) (by decide)
  simpa using h

/-! The same for a caller that calls `receive` again after every reported read failure (`sessionRetryA/S`, C02),
however many reads failed on the way, and wherever. -/

theorem C10_unclean_after_failed_reads_async (fuel : Nat) (rs : List Spec.AbsResp) (r : Spec.AbsResp) (p q : Bytes)
    (cs : List Bytes) (t : Term) (more : List Conn.ScriptPiece)
    (hio : IoChain t more) (hne : NonEmptyChunks (flatScript cs more)) (hlast : lastTerm t more = .eof)
    (hwf : ∀ x ∈ rs, Spec.WF x = true) (hr : Spec.WF r = true)
    (hpq : Spec.enc r = p ++ q) (hp : p ≠ []) (hq : q ≠ [])
    (hflat : (flatScript cs more).flatten = rs.flatMap Spec.enc ++ p) :
    sessionRetryA (fuel + 1 + rs.length) 0 .initial [] cs t more = rs.map viewItem ++ [.unexpectedEof] := by
  rw [C02.C02_failed_reads_invisible_session _ cs t more hio hne, hlast, hflat]
  exact C10_unclean fuel rs r p q hwf hr hpq hp hq

theorem C10_clean_after_failed_reads_async (fuel : Nat) (rs : List Spec.AbsResp)
    (cs : List Bytes) (t : Term) (more : List Conn.ScriptPiece)
    (hio : IoChain t more) (hne : NonEmptyChunks (flatScript cs more)) (hlast : lastTerm t more = .eof)
    (hwf : ∀ x ∈ rs, Spec.WF x = true)
    (hflat : (flatScript cs more).flatten = rs.flatMap Spec.enc) :
    sessionRetryA (fuel + 1 + rs.length) 0 .initial [] cs t more = rs.map viewItem ++ [.clean] := by
  rw [C02.C02_failed_reads_invisible_session _ cs t more hio hne, hlast, hflat]
  exact C10_clean fuel rs hwf

theorem C10_unclean_after_failed_reads_blocking (fuel : Nat) (rs : List Spec.AbsResp) (r : Spec.AbsResp) (p q : Bytes)
    (cs : List Bytes) (t : Term) (more : List Conn.ScriptPiece)
    (hio : IoChain t more) (hne : NonEmptyChunks (flatScript cs more)) (hlast : lastTerm t more = .eof)
    (hwf : ∀ x ∈ rs, Spec.WF x = true) (hr : Spec.WF r = true)
    (hpq : Spec.enc r = p ++ q) (hp : p ≠ []) (hq : q ≠ [])
    (hflat : (flatScript cs more).flatten = rs.flatMap Spec.enc ++ p) :
    sessionRetryS (fuel + 1 + rs.length) 0 .initial { cap := DEFAULT_CAP, data := [] } cs t more =
      rs.map viewItem ++ [.unexpectedEof] := by
  rw [C02.C02_failed_reads_invisible_session_blocking _ _ cs t more hio hne C02.fresh_inv,
    hlast, List.nil_append, hflat]
  exact C10_unclean fuel rs r p q hwf hr hpq hp hq

end Mpd.C10
