import MpdProofs.Lemmas.Encode
import MpdSpec.Grammar
import MpdProofs.C02
/-!
# C03 — well-formed server output is decoded exactly, including binary and command lists

`Spec.enc` is the independent encoder of abstract responses (`MpdSpec/Grammar.lean`); `Spec.view` is what a client
must see. The builder is walked over `enc r` line by line (`feed_wire`); C02 carries the result to both connection
flavours under every segmentation.
-/
namespace Mpd.C03
open Mpd.Parser Mpd.Builder Mpd.Conn

/-! Every line the encoder writes is a line of the grammar. The grammar's character classes are written independently
of the model's and agree by `rfl` (`Spec.keyChar = Parser.isKeyChar`, `Spec.cmdChar = Parser.isCmdNameChar`): that is
how the hypotheses on keys and command names pass from `Spec.wfKey` / `Spec.wfErr` to `Wire` below. -/

theorem mem_of_contains_false (v : Bytes) (h : v.contains LF = false) : LF ∉ v :=
  fun hm => Bool.false_ne_true (h.symm.trans (List.contains_iff_mem.mpr hm))

theorem wire_fieldLine (kv : Bytes × Bytes) (hk : Spec.wfKey kv.1 = true) (hv : Spec.wfValue kv.2 = true) :
    Wire (.field kv.1 kv.2) (Spec.fieldLine kv) ∧ kv.1 ≠ str "binary" := by
  simp only [Spec.wfKey, Bool.and_eq_true, Bool.not_eq_true', bne_iff_ne, ne_eq] at hk
  simp only [Spec.wfValue, Bool.and_eq_true, Bool.not_eq_true'] at hv
  obtain ⟨⟨hne, hall⟩, hnb⟩ := hk
  refine ⟨?_, hnb⟩
  have hne' : kv.1 ≠ [] := by intro h; rw [h] at hne; simp at hne
  exact Wire.field kv.1 kv.2 hne' hall (mem_of_contains_false _ hv.2) hv.1

theorem wire_binarySection (b : Bytes) (h : b.length ≤ U64MAX) :
    Wire (.binary b.length) (Spec.binarySection b) := by
  have h3 := (natToDec_spec b.length).2.2
  have hw := Wire.binary (natToDec b.length) b (isNum_natToDec h) h3.symm
  rwa [h3] at hw

theorem wire_encErr (e : Spec.Err) (h : Spec.wfErr e = true) : Wire (.error e) (Spec.encErr e) := by
  simp only [Spec.wfErr, Bool.and_eq_true, decide_eq_true_eq] at h
  obtain ⟨⟨⟨hc, hi⟩, hm⟩, hcmd⟩ := h
  simp only [Spec.wfValue, Bool.and_eq_true, Bool.not_eq_true'] at hm
  have hcmd' : (e.command.getD []).all isCmdNameChar = true ∧
      e.command = (if e.command.getD [] = [] then none else some (e.command.getD [])) := by
    cases hcm : e.command with
    | none => simp
    | some c =>
      rw [hcm] at hcmd
      simp only [Bool.and_eq_true, Bool.not_eq_true'] at hcmd
      have hne : c ≠ [] := by intro h0; rw [h0] at hcmd; simp at hcmd
      exact ⟨hcmd.2, by simp [hne]⟩
  have hw := Wire.error (natToDec e.code) (natToDec e.index) (e.command.getD []) e.message
    (isNum_natToDec hc) (isNum_natToDec hi) hcmd'.1 (mem_of_contains_false _ hm.2) hm.1
  rwa [(natToDec_spec e.code).2.2, (natToDec_spec e.index).2.2, ← hcmd'.2] at hw

def absorbFields (σ : BState) (fs : List (Bytes × Bytes)) : BState :=
  fs.foldl (fun σ kv => (bstep σ (.field kv.1 kv.2)).1) σ

def wfFields (fs : List (Bytes × Bytes)) : Prop :=
  ∀ kv ∈ fs, Spec.wfKey kv.1 = true ∧ Spec.wfValue kv.2 = true

theorem feed_fields (σ : BState) (fs : List (Bytes × Bytes)) (tl : Bytes) (hwf : wfFields fs) :
    feed σ (fs.flatMap Spec.fieldLine ++ tl) = feed (absorbFields σ fs) tl := by
  induction fs generalizing σ with
  | nil => simp [absorbFields]
  | cons kv rest ih =>
    have hkv := hwf kv (by simp)
    obtain ⟨hw, hnb⟩ := wire_fieldLine kv hkv.1 hkv.2
    simp only [List.flatMap_cons, List.append_assoc]
    rw [feed_field σ _ hw hnb, ih _ (fun x hx => hwf x (by simp [hx]))]
    rfl

theorem absorbFields_view (σ : BState) (fs : List (Bytes × Bytes)) :
    isList (absorbFields σ fs) = isList σ ∧ doneFrames (absorbFields σ fs) = doneFrames σ ∧
    cur (absorbFields σ fs) = { cur σ with fields := (cur σ).fields ++ fs } := by
  induction fs generalizing σ with
  | nil => simp [absorbFields]
  | cons kv rest ih =>
    have hb := bstep_field σ kv.1 kv.2
    have := ih (bstep σ (.field kv.1 kv.2)).1
    simp only [absorbFields, List.foldl_cons] at this ⊢
    obtain ⟨h1, h2, h3⟩ := this
    refine ⟨h1.trans hb.2.1, h2.trans hb.2.2.2, ?_⟩
    rw [h3, hb.2.2.1]
    simp [pushField]

/-- the whole body of a frame: fields, with the binary section somewhere in between -/
def absorbFrame (σ : BState) (f : Spec.AbsFrame) : BState :=
  match f.binary with
  | none => absorbFields σ f.fields
  | some b => absorbFields (bstep (absorbFields σ (f.fields.take f.binPos)) (.binary b)).1 (f.fields.drop f.binPos)

theorem wfFrame_fields (f : Spec.AbsFrame) (h : Spec.wfFrame f = true) : wfFields f.fields := by
  intro kv hkv
  simp only [Spec.wfFrame, Bool.and_eq_true, List.all_eq_true] at h
  exact h.1 kv hkv

theorem feed_frameBody (σ : BState) (f : Spec.AbsFrame) (tl : Bytes) (hwf : Spec.wfFrame f = true) :
    feed σ (Spec.encFrameBody f ++ tl) = feed (absorbFrame σ f) tl := by
  have hfs := wfFrame_fields f hwf
  unfold Spec.encFrameBody absorbFrame
  cases hb : f.binary with
  | none =>
    simp only
    rw [← List.flatMap_append, List.take_append_drop]
    exact feed_fields σ f.fields tl hfs
  | some b =>
    simp only
    have hlen : b.length ≤ U64MAX := by
      simp only [Spec.wfFrame, Bool.and_eq_true, hb, Option.all_some, decide_eq_true_eq] at hwf
      exact hwf.2
    have h1 : wfFields (f.fields.take f.binPos) := fun x hx => hfs x (List.mem_of_mem_take hx)
    have h2 : wfFields (f.fields.drop f.binPos) := fun x hx => hfs x (List.mem_of_mem_drop hx)
    rw [List.append_assoc, List.append_assoc, feed_fields _ _ _ h1]
    rw [Spec.binarySection, feed_binary _ _ b _ (isNum_natToDec hlen) (natToDec_spec _).2.2.symm]
    exact feed_fields _ _ tl h2

theorem absorbFrame_view (σ : BState) (f : Spec.AbsFrame) :
    isList (absorbFrame σ f) = isList σ ∧ doneFrames (absorbFrame σ f) = doneFrames σ ∧
    cur (absorbFrame σ f) =
      { fields := (cur σ).fields ++ f.fields,
        binary := match f.binary with | some b => some b | none => (cur σ).binary } := by
  unfold absorbFrame
  cases hb : f.binary with
  | none =>
    obtain ⟨h1, h2, h3⟩ := absorbFields_view σ f.fields
    exact ⟨h1, h2, by rw [h3]⟩
  | some b =>
    simp only
    obtain ⟨a1, a2, a3⟩ := absorbFields_view σ (f.fields.take f.binPos)
    have hbb := bstep_binary (absorbFields σ (f.fields.take f.binPos)) b
    obtain ⟨c1, c2, c3⟩ := absorbFields_view (bstep (absorbFields σ (f.fields.take f.binPos)) (.binary b)).1
      (f.fields.drop f.binPos)
    refine ⟨c1.trans (hbb.2.1.trans a1), c2.trans (hbb.2.2.2.trans a2), ?_⟩
    rw [c3, hbb.2.2.1, a3]
    simp [List.append_assoc]

theorem absorbFrame_fresh (σ : BState) (f : Spec.AbsFrame) (hc : cur σ = emptyFrame) :
    cur (absorbFrame σ f) = Spec.viewFrame f := by
  rw [(absorbFrame_view σ f).2.2, hc]
  simp only [emptyFrame, List.nil_append, Spec.viewFrame]
  cases f.binary <;> rfl

theorem feed_OK (σ : BState) (tl : Bytes) :
    feed σ (str "OK\n" ++ tl) =
      (.initial, tl, .done { frames := if isList σ then doneFrames σ else [cur σ], error := none }) := by
  rw [feed_wire σ _ _ _ Wire.endOfResponse (fun k v h => by cases h)]
  simp only [pieceOf, bstep_endOfResponse]

theorem feed_listOK (σ : BState) (tl : Bytes) :
    feed σ (str "list_OK\n" ++ tl) = feed (.listInProgress emptyFrame (doneFrames σ ++ [cur σ])) tl := by
  rw [feed_wire σ _ _ _ Wire.endOfFrame (fun k v h => by cases h)]
  simp only [pieceOf, bstep_endOfFrame]

theorem feed_ACK (σ : BState) (e : Spec.Err) (tl : Bytes) (he : Spec.wfErr e = true) :
    feed σ (Spec.encErr e ++ tl) =
      (.initial, tl, .done { frames := doneFrames σ, error := some e }) := by
  rw [feed_wire σ _ _ _ (wire_encErr e he) (fun k v h => by cases h)]
  simp only [pieceOf, bstep_error]

/-- the complete frames of a list reply, through the view of the builder state: the state reached depends on the
first state (`initial` or a list in progress), its view does not -/
theorem feed_listFrames (c : BState) (fs : List Spec.AbsFrame) (hwf : ∀ f ∈ fs, Spec.wfFrame f = true)
    (hc : cur c = emptyFrame) :
    ∃ σ, (∀ tl, feed c (fs.flatMap (fun f => Spec.encFrameBody f ++ str "list_OK\n") ++ tl) = feed σ tl) ∧
      doneFrames σ = doneFrames c ++ fs.map Spec.viewFrame ∧ (isList c = true ∨ fs ≠ [] → isList σ = true) := by
  induction fs generalizing c with
  | nil => exact ⟨c, fun _ => rfl, (List.append_nil _).symm, fun h => h.elim id (absurd rfl)⟩
  | cons f rest ih =>
    obtain ⟨σ, hfeed, hdone, hlist⟩ :=
      ih (.listInProgress emptyFrame (doneFrames c ++ [Spec.viewFrame f])) (fun x hx => hwf x (by simp [hx])) rfl
    refine ⟨σ, fun tl => ?_, by rw [hdone, List.map_cons, doneFrames, List.append_assoc]; rfl, fun _ => hlist (.inl rfl)⟩
    rw [List.flatMap_cons, List.append_assoc, List.append_assoc, feed_frameBody c f _ (hwf f (by simp)), feed_listOK,
      (absorbFrame_view c f).2.1, absorbFrame_fresh c f hc]
    exact hfeed tl

theorem wf_parts (r : Spec.AbsResp) (h : Spec.WF r = true) :
    (∀ f ∈ r.frames, Spec.wfFrame f = true) ∧ (∀ f, r.partialFrame = some f → Spec.wfFrame f = true) ∧
    (∀ e, r.error = some e → Spec.wfErr e = true) := by
  simp only [Spec.WF, Bool.and_eq_true, List.all_eq_true] at h
  obtain ⟨⟨⟨h1, h2⟩, h3⟩, _⟩ := h
  refine ⟨h1, ?_, ?_⟩
  · intro f hf; rw [hf] at h2; simpa using h2
  · intro e he; rw [he] at h3; simpa using h3

/-- the lines of a failing command written so far are dropped, the error completes the response -/
theorem feed_partial_ACK (σ : BState) (pf : Option Spec.AbsFrame) (e : Spec.Err) (tl : Bytes)
    (hpf : ∀ f, pf = some f → Spec.wfFrame f = true) (he : Spec.wfErr e = true) :
    feed σ (Spec.encPartial pf ++ Spec.encErr e ++ tl) =
      (.initial, tl, .done { frames := doneFrames σ, error := some e }) := by
  cases pf with
  | none =>
    rw [Spec.encPartial, List.nil_append]
    exact feed_ACK σ e tl he
  | some f =>
    rw [Spec.encPartial, List.append_assoc, feed_frameBody σ f _ (hpf f rfl), feed_ACK _ e tl he,
      (absorbFrame_view σ f).2.1]

/-- **C03**: a well-formed response is decoded to exactly its view, and the bytes that follow are left untouched,
whatever they are -/
theorem C03_response (r : Spec.AbsResp) (tl : Bytes) (hwf : Spec.WF r = true) :
    feed .initial (Spec.enc r ++ tl) =
      (.initial, tl, .done { frames := (Spec.view r).1, error := (Spec.view r).2 }) := by
  obtain ⟨hfr, hpf, her⟩ := wf_parts r hwf
  unfold Spec.enc Spec.view
  by_cases hl : r.listForm = true
  · -- reply to a command list
    simp only [hl, if_true, List.append_assoc]
    obtain ⟨σ, hfeed, hdone, hlist⟩ := feed_listFrames .initial r.frames hfr rfl
    rw [hfeed]
    cases he : r.error with
    | none =>
      have hne : r.frames ≠ [] := by
        intro h0
        simp only [Spec.WF, hl, he, h0] at hwf
        simp at hwf
      dsimp only
      rw [feed_OK, hlist (.inr hne), hdone]
      rfl
    | some e =>
      dsimp only
      rw [feed_partial_ACK _ _ e tl hpf (her e he), hdone]
      rfl
  · -- reply to a single command
    have hl' : r.listForm = false := by simpa using hl
    simp only [hl', Bool.false_eq_true, if_false]
    cases he : r.error with
    | none =>
      have h1 : ∃ f, r.frames = [f] := by
        simp only [Spec.WF, hl', he] at hwf
        simp only [Bool.false_eq_true, if_false, Bool.and_eq_true, beq_iff_eq] at hwf
        exact List.length_eq_one_iff.mp hwf.2.1
      obtain ⟨f, hf⟩ := h1
      rw [hf]
      dsimp only
      simp only [List.flatMap_cons, List.flatMap_nil, List.append_nil, List.map_cons, List.map_nil, List.append_assoc]
      rw [feed_frameBody .initial f _ (hfr f (by simp [hf])), feed_OK, (absorbFrame_view .initial f).1,
        absorbFrame_fresh .initial f rfl]
      rfl
    | some e => exact feed_partial_ACK .initial _ e tl hpf (her e he)

def viewItem (r : Spec.AbsResp) : Item :=
  .resp { frames := (Spec.view r).1, error := (Spec.view r).2 }

/-- **C03 for streams**: several responses back to back decode to their views, in order, and the decoding continues
with whatever follows -/
theorem C03_stream (fuel : Nat) (rs : List Spec.AbsResp) (tl : Bytes) (term : Term)
    (hwf : ∀ r ∈ rs, Spec.WF r = true) :
    decodeAll (fuel + rs.length) (rs.flatMap Spec.enc ++ tl) term =
      rs.map viewItem ++ decodeAll fuel tl term := by
  induction rs with
  | nil => simp
  | cons r rest ih =>
    simp only [List.flatMap_cons, List.append_assoc, List.length_cons, List.map_cons, List.cons_append]
    rw [← Nat.add_assoc, decodeAll, C03_response r _ (hwf r (by simp))]
    simp only [viewItem]
    rw [ih (fun x hx => hwf x (by simp [hx]))]

/-- the stream ends after the last response -/
theorem C03_stream_end (fuel : Nat) (rs : List Spec.AbsResp) (term : Term) (hwf : ∀ r ∈ rs, Spec.WF r = true) :
    decodeAll (fuel + 1 + rs.length) (rs.flatMap Spec.enc) term = rs.map viewItem ++ [termItem term .initial []] := by
  have := C03_stream (fuel + 1) rs [] term hwf
  rw [List.append_nil] at this
  rw [this, decodeAll, feed_nil]

/-- **C03 on both connections, under every segmentation** -/
theorem C03_async (fuel : Nat) (rs : List Spec.AbsResp) (chunks : List Bytes) (term : Term)
    (hwf : ∀ r ∈ rs, Spec.WF r = true) (hne : NonEmptyChunks chunks)
    (hflat : chunks.flatten = rs.flatMap Spec.enc) :
    sessionA (fuel + 1 + rs.length) 0 .initial [] chunks term = rs.map viewItem ++ [termItem term .initial []] := by
  rw [C02.C02_async _ [] chunks term hne, List.nil_append, hflat]
  exact C03_stream_end fuel rs term hwf

theorem C03_sync (fuel : Nat) (rs : List Spec.AbsResp) (chunks : List Bytes) (term : Term)
    (hwf : ∀ r ∈ rs, Spec.WF r = true) (hne : NonEmptyChunks chunks)
    (hflat : chunks.flatten = rs.flatMap Spec.enc) :
    sessionS (fuel + 1 + rs.length) 0 .initial { cap := DEFAULT_CAP, data := [] } chunks term =
      rs.map viewItem ++ [termItem term .initial []] := by
  rw [C02.C02_sync _ _ chunks term hne C02.fresh_inv, List.nil_append, hflat]
  exact C03_stream_end fuel rs term hwf

/-- a response whose payload is made of protocol look-alikes and whose values mimic keywords -/
def tricky : Spec.AbsResp :=
  { listForm := false,
    frames := [{ fields := [(str "size", str "9"), (str "a", str "OK"), (str "b", str "ACK [5@0] {} x"),
                            (str "c", str "binary: 3"), (str "OK", [])],
                 binary := some (str "OK\nlist_OK\nACK [1@0] {} x\n"), binPos := 1 }] }

theorem tricky_wf : Spec.WF tricky = true := by
  unfold tricky
  repeat rw [str_ofList]
  decide +kernel

/-- the payload is never scanned and keyword-like values are plain values -/
example : feed .initial (Spec.enc tricky ++ str "next") =
    (.initial, str "next", .done { frames := (Spec.view tricky).1, error := (Spec.view tricky).2 }) :=
  C03_response tricky _ tricky_wf

example : (Spec.view tricky).1 =
    [{ fields := [(str "size", str "9"), (str "a", str "OK"), (str "b", str "ACK [5@0] {} x"),
                  (str "c", str "binary: 3"), (str "OK", [])],
       binary := some (str "OK\nlist_OK\nACK [1@0] {} x\n") }] := rfl

end Mpd.C03
