import MpdProofs.Lemmas.NoidleOnly
import Mpd.Client
import MpdProofs.Lemmas.Progress
import MpdProofs.Lemmas.InvalidFinal
/-!
# C08 — when the connection ends, every request resolves and the failure is reported

On the byte-level task model, for EVERY state. The idea: the ids `accounted` for (answered ++ in flight ++ queued) are
the same after every step; leaving the loop answers the whole queue `ConnectionClosed`; and once the read side is dead
(EOF or read fault, both persistent) every move, a task step or the 100 ms timer firing, decreases the explicit
measure `μ` of `Lemmas/Progress.lean`, whatever poll order the scheduler picks. So the loop returns, and every request
has been answered exactly as often as it was accounted for. A closing event comes at most once, when the loop ends.

PARTIAL: a dead WRITE side alone (reads still possible) ends the loop only at the next write; that the peer then
closes the read side is the environment's business. tokio's scheduler fairness (that the task is polled at all) and
`Drop` order are validated by the correspondence run with faults at arbitrary points (every request future must
complete, `is_connection_closed`, event stream end, transport `Drop`).
-/
namespace Mpd.C08
open Mpd.Loop

theorem C08_exit_resolves_all (s : St) :
    (exitLoop s).pc = .exited ∧ (exitLoop s).queue = [] ∧
    (exitLoop s).obs = s.obs ++ s.queue.map (fun r => Obs.resolved r.id .closed) ++ [.eventsEnd, .transportDropped] :=
  exitLoop_spec s

theorem C08_never_lost (s s' : St) (rf : Bool) (h : step s rf = some s') :
    ∀ id, (accounted s').count id = (accounted s).count id := step_accounted s s' rf h

theorem C08_at_most_one_closing (s s' : St) (rf : Bool) (h : step s rf = some s') (hi : ClosingInv s) :
    ClosingInv s' := step_closingInv s s' rf h hi

theorem C08_dead_connection_drains (sched : St → Bool) (s : St) (hp : Post s) (hd : Dead s) :
    ∃ n, n ≤ μ s ∧ (drain sched n s).pc = .exited ∧ (drain sched n s).queue = [] ∧
      ∀ id, (resolvedIds (drain sched n s).obs).count id = (accounted s).count id :=
  dead_connection_drains sched s hp hd

/-- non-vacuity: a request in flight, another queued, the stream ends inside the reply -/
def deadExample : St :=
  { pc := .waiting { id := 1, bytes := str "ping\n" } (.inProgress { fields := [(str "a", str "b")] }),
    queue := [{ id := 2, bytes := str "status\n" }], eof := true, senders := 3, fresh := false }

example : Post deadExample ∧ Dead deadExample := by
  refine ⟨⟨trivial, by intro h; cases h⟩, Or.inl rfl⟩

example : ((drain (fun _ => false) 6 deadExample).pc, resolvedIds (drain (fun _ => false) 6 deadExample).obs) =
    (.exited, [1, 2]) := by decide +kernel

theorem C08_closing_init : ClosingInv {} := by simp [ClosingInv, closings]

theorem C08_after_exit (s : St) (rf : Bool) (h : s.pc = .exited) : step s rf = none := step_exited s rf h

theorem C08_request_after_exit (w : Client.World) (id : Nat) (b : Bytes) (h : w.st.pc = .exited) :
    (Client.submit w id b).st.obs = w.st.obs ++ [.resolved id .closed] ∧ (Client.submit w id b).st.queue = w.st.queue := by
  simp [Client.submit, h, emit]

/-- the read side has ended (EOF or a persistent read fault): polling the receive future never returns Pending, so the
state machine cannot block on reading -/
theorem C08_read_end_ready (s : St) (σ : Builder.BState) (h : s.eof = true ∨ s.rerr.isSome = true) :
    ∀ σ', (pollRecv s σ).2 ≠ .pending σ' := by
  intro σ' hp
  obtain ⟨⟨it, hit⟩, _⟩ := (pollRecv_poll s σ).dead h
  rw [hp] at hit
  cases hit

/-- a reply completely buffered before the fault still reaches its caller as `Ok` -/
theorem C08_complete_reply_kept (s : St) (σ : Builder.BState) (σ' : Builder.BState) (rest : Bytes) (r : Builder.Response)
    (h : Builder.feed σ s.buf = (σ', rest, .done r)) :
    (pollRecv s σ).2 = .ready (.resp r) := by
  unfold pollRecv; rw [h]

/-! The failure is surfaced: an end of stream inside a response reaches the caller in flight, or the event stream, as
`UnexpectedEof`; an end of stream on a response boundary is a plain close. -/

theorem C08_unclean_eof_reaches_caller (s : St) (rf : Bool) (req : Req) (σ σ1 : Builder.BState) (rest : Bytes)
    (hpc : s.pc = .waiting req σ) (heof : s.eof = true) (hr : s.rerr = none) (hav : s.avail = [])
    (hf : Builder.feed σ s.buf = (σ1, rest, .pending))
    (hin : Builder.inProgress σ1 = true ∨ rest ≠ []) :
    ∃ s', step s rf = some s' ∧ Obs.resolved req.id (.protocol .unexpectedEof) ∈ s'.obs := by
  obtain ⟨s', buf, avail, kept, hs, ha⟩ :=
    step_at_eof s rf σ σ1 rest (by rw [hpc]; rfl) (fun _ h => by rw [hpc] at h; cases h) heof hr hav hf
  rw [Conn.eofItem_unclean hin] at ha
  refine ⟨s', hs, ?_⟩
  cases ha with
  | replyBroken rq _ _ hpc' _ _ hm =>
    cases hpc.symm.trans hpc'
    obtain ⟨e, he, _⟩ := extk_move hm
    rw [he]
    simp [emit, itemErr]
  -- the other paths that end a poll with something else than a response start from another program point
  | _ => exact Pc.noConfusion (hpc.symm.trans (by assumption : (s.polled buf avail kept).pc = _))

/-- while idling (no request pending): the event stream gets the closing event with the error -/
theorem C08_unclean_eof_reaches_events (s : St) (rf : Bool) (σ σ1 : Builder.BState) (rest : Bytes)
    (hpc : s.pc = .idling σ) (hq : s.queue = []) (hs : s.senders ≠ 0)
    (heof : s.eof = true) (hr : s.rerr = none) (hav : s.avail = [])
    (hf : Builder.feed σ s.buf = (σ1, rest, .pending))
    (hin : Builder.inProgress σ1 = true ∨ rest ≠ []) :
    ∃ s', step s rf = some s' ∧ Obs.closing (some .unexpectedEof) ∈ s'.obs ∧ s'.pc = .exited := by
  obtain ⟨s', buf, avail, kept, hstep, ha⟩ :=
    step_at_eof s rf σ σ1 rest (by rw [hpc]; rfl) (fun _ _ => ⟨hq, hs⟩) heof hr hav hf
  rw [Conn.eofItem_unclean hin] at ha
  refine ⟨s', hstep, ?_⟩
  cases ha with
  | idleBroken _ _ _ _ _ =>
    refine ⟨?_, (exitLoop_spec _).1⟩
    rw [(exitLoop_spec _).2.2]
    simp [emit, itemErr]
  | _ => exact Pc.noConfusion (hpc.symm.trans (by assumption : (s.polled buf avail kept).pc = _))

/-- ... and an end of stream on a response boundary while idling is a plain close: no closing event -/
theorem C08_clean_eof_no_error (s : St) (rf : Bool) (hpc : s.pc = .idling .initial) (hq : s.queue = [])
    (hs : s.senders ≠ 0) (heof : s.eof = true) (hr : s.rerr = none) (hav : s.avail = []) (hb : s.buf = []) :
    ∃ s', step s rf = some s' ∧ s'.pc = .exited ∧ closings s'.obs = closings s.obs := by
  have hf : Builder.feed .initial s.buf = (.initial, [], .pending) := by rw [hb]; exact Builder.feed_nil .initial
  obtain ⟨s', buf, avail, kept, hstep, ha⟩ :=
    step_at_eof s rf .initial .initial [] (by rw [hpc]; rfl) (fun _ _ => ⟨hq, hs⟩) heof hr hav hf
  have hclean : Conn.eofItem .initial [] = .clean := by simp [Conn.eofItem, Builder.inProgress]
  rw [hclean] at ha
  refine ⟨s', hstep, ?_⟩
  cases ha with
  | idleClean _ _ => exact ⟨(exitLoop_spec _).1, closings_exitLoop _⟩
  | idleBroken _ _ _ _ hne => exact absurd rfl hne
  | _ => exact Pc.noConfusion (hpc.symm.trans (by assumption : (s.polled buf avail kept).pc = _))

/-- **invalid data is final**: when a poll of the receive future has reported an invalid message, any later state with
that receive buffer and builder state, whatever has arrived on the transport since, polls to an invalid message
again, consuming nothing: no later request is handed what was left of the rejected reply -/
theorem C08_invalid_data_is_final (s : St) (σ : Builder.BState) (s1 : St)
    (h : pollRecv s σ = (s1, .ready .invalid))
    (s2 : St) (hb : s2.buf = s1.buf) (hs : s2.bstash = s1.bstash) :
    (pollRecv s2 s2.bstash).2 = .ready .invalid ∧ (pollRecv s2 s2.bstash).1.buf = s2.buf ∧
      (pollRecv s2 s2.bstash).1.bstash = s2.bstash := by
  rw [pollRecv_invalid_final s σ s1 h s2 hb hs]
  exact ⟨rfl, rfl, rfl⟩

end Mpd.C08
