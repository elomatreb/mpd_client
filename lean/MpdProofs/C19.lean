import Mpd.Frame
import Mpd.FrameOps
import MpdSpec.FrameSpec
import MpdProofs.Lemmas.Frame
/-!
# C19 — frames and responses behave as ordered collections of what the server sent

A response frame behaves as an ordered multimap over the lines the server sent (iteration from either
end, borrowed or owned; case-sensitive first-match lookup and removal; lengths); a response yields its
successful frames in order, then its error, if any, with exact size hints from either end.

A refinement: the concrete model (`Mpd/Frame.lean`: slot vector with holes, hole-skipping iterators
popping from either end of the remaining slots) against the specification (`Mpd/AFrame.lean`: list
multimap; `MpdSpec/FrameSpec.lean`: a double-ended iterator is the list of items not yet yielded)
through `Frame.abs`, `absSlots`, `absInto`, `absFrames`. Every method commutes with the abstraction,
then every SEQUENCE of calls by induction on the sequence; all frames (holes anywhere, duplicate
keys, any bytes), no size bounds.
-/
namespace Mpd.C19
open Mpd.FrameOps Mpd.FrameSpec Mpd.FrameLemmas

/-- short for `Frame.abs`, which lives in the model file because the typed models use it too -/
abbrev abs (f : Frame) : AFrame := f.abs

theorem abs_fields (f : Frame) : (abs f).fields = absSlots f.slots := rfl

theorem C19_find_refines (f : Frame) (k : Bytes) : f.find k = (abs f).find k := by
  simp only [Frame.find, Frame.fields, findMap_eq, findSome?_ite, AFrame.find]
  rfl

theorem C19_get_refines (f : Frame) (k : Bytes) :
    (f.get k).1 = ((abs f).get k).1 ∧ abs (f.get k).2 = ((abs f).get k).2 := by
  have h := getSlots_spec k f.slots
  rw [AFrame_get_eq]
  exact ⟨h.1, congrArg (AFrame.mk · f.binary) h.2.1⟩

/-- `get` only punches a hole: no shifting, positions stay -/
theorem C19_get_keeps_slots (f : Frame) (k : Bytes) : (f.get k).2.slots.length = f.slots.length :=
  (getSlots_spec k f.slots).2.2

theorem C19_takeBinary_refines (f : Frame) :
    f.takeBinary.1 = (abs f).takeBinary.1 ∧ abs f.takeBinary.2 = (abs f).takeBinary.2 := ⟨rfl, rfl⟩

theorem C19_takeBinary_once (f : Frame) :
    f.takeBinary.2.takeBinary.1 = none ∧ f.takeBinary.2.getBinary = none ∧ f.takeBinary.2.hasBinary = false :=
  ⟨rfl, rfl, rfl⟩

theorem C19_binary_refines (f : Frame) : f.getBinary = (abs f).binary := rfl
theorem C19_hasBinary_refines (f : Frame) : f.hasBinary = (abs f).binary.isSome := rfl

theorem C19_fieldsLen_refines (f : Frame) : f.fieldsLen = (abs f).fieldsLen := by
  simp [Frame.fieldsLen, Frame.fields, count_eq, AFrame.fieldsLen, abs_fields]

theorem C19_isEmpty_refines (f : Frame) : f.isEmpty = (abs f).isEmpty := by
  simp only [Frame.isEmpty, AFrame.isEmpty, C19_fieldsLen_refines, AFrame.fieldsLen, Frame.hasBinary]
  cases (abs f).fields <;> cases hb : f.binary <;> simp [hb]

theorem C19_len_agrees_with_iteration (f : Frame) :
    f.fieldsLen = (Fields.collect f.fields).length ∧
    f.fieldsLen = (Fields.collectBack f.fields).length ∧
    (f.isEmpty = true ↔ Fields.collect f.fields = [] ∧ f.binary = none) := by
  refine ⟨?_, ?_, ?_⟩
  · simp [Frame.fieldsLen, count_eq, collect_eq]
  · simp [Frame.fieldsLen, count_eq, collectBack_eq]
  · rw [C19_isEmpty_refines]
    simp [AFrame.isEmpty, collect_eq, Frame.fields, abs_fields]

theorem C19_fields_next_refines (it : List Slot) :
    (Fields.next it).1 = (DQ.next (absSlots it)).1 ∧ absSlots (Fields.next it).2 = (DQ.next (absSlots it)).2 :=
  next_refines it

theorem C19_fields_nextBack_refines (it : List Slot) :
    (Fields.nextBack it).1 = (DQ.nextBack (absSlots it)).1 ∧
      absSlots (Fields.nextBack it).2 = (DQ.nextBack (absSlots it)).2 :=
  nextBack_refines it

/-- EVERY sequence of `next` / `next_back` calls on `frame.fields()` -/
theorem C19_fields_seq_refines (f : Frame) (pat : List Bool) :
    driveFields pat f.fields = DQ.drive pat (abs f).fields :=
  driveFields_refines pat f.slots

/-- the same from any iterator state (mid-iteration) -/
theorem C19_fields_seq_refines_state (it : List Slot) (pat : List Bool) :
    driveFields pat it = DQ.drive pat (absSlots it) :=
  driveFields_refines pat it

/-- fused: once a call returned `None`, every later call (from either end) returns `None` -/
theorem C19_fields_fused (it : List Slot) (b : Bool) (pat : List Bool)
    (h : (if b then Fields.nextBack it else Fields.next it).1 = none) :
    driveFields pat (if b then Fields.nextBack it else Fields.next it).2 = pat.map (fun _ => none) := by
  have hr := fields_step_refines b it
  rw [driveFields_refines, hr.2]
  exact DQ_fused b pat _ (hr.1 ▸ h)

theorem C19_fields_forward (f : Frame) : Fields.collect f.fields = (abs f).fields := collect_eq f.slots

theorem C19_fields_backward (f : Frame) : Fields.collectBack f.fields = (abs f).fields.reverse :=
  collectBack_eq f.slots

/-- items returned by the `next()` calls of a run, in call order -/
def fronts {α : Type} : List Bool → List (Option α) → List α
  | false :: p, some a :: o => a :: fronts p o
  | _ :: p, _ :: o => fronts p o
  | _, _ => []

/-- items returned by the `next_back()` calls of a run, in call order -/
def backs {α : Type} : List Bool → List (Option α) → List α
  | true :: p, some a :: o => a :: backs p o
  | _ :: p, _ :: o => backs p o
  | _, _ => []

/-- The queue specification itself: front calls consume a prefix in order, back calls a suffix in
reverse order, nothing is yielded twice or skipped. -/
theorem C19_deque_partition {α : Type} (pat : List Bool) (l : List α) :
    fronts pat (DQ.drive pat l) ++ DQ.remaining pat l ++ (backs pat (DQ.drive pat l)).reverse = l := by
  induction pat generalizing l with
  | nil => exact List.append_nil l
  | cons b p ih =>
    -- `next` on `a :: t` puts `a` in front of the run on `t` (by computation), `next_back` on
    -- `t ++ [a]` puts `a` behind it
    cases b with
    | false =>
      cases l with
      | nil => exact ih []
      | cons a t => exact congrArg (a :: ·) (ih t)
    | true =>
      rcases eq_nil_or_snoc l with rfl | ⟨t, a, rfl⟩
      · exact ih []
      · simp only [DQ.drive, DQ.remaining, DQ_nextBack_snoc, if_true]
        show fronts p (DQ.drive p t) ++ DQ.remaining p t ++ (a :: backs p (DQ.drive p t)).reverse = t ++ [a]
        rw [List.reverse_cons, ← List.append_assoc, ih t]

theorem C19_fields_partition (f : Frame) (pat : List Bool) :
    fronts pat (driveFields pat f.fields) ++ DQ.remaining pat (abs f).fields ++
      (backs pat (driveFields pat f.fields)).reverse = (abs f).fields := by
  rw [C19_fields_seq_refines]; exact C19_deque_partition pat _

theorem C19_into_step_refines (it : IntoIter) (s : IStep) :
    (stepInto it s).1 = ((absInto it).step s).1 ∧ absInto (stepInto it s).2 = ((absInto it).step s).2 :=
  stepInto_refines it s

/-- EVERY sequence of `next` / `next_back` / `take_binary` calls on `frame.into_iter()` -/
theorem C19_into_seq_refines (f : Frame) (pat : List IStep) :
    driveInto pat f.intoIter = AInto.drive pat { items := (abs f).fields, binary := (abs f).binary } :=
  driveInto_refines pat f.intoIter

/-- after a `None` from `next` / `next_back` every later `next` / `next_back` returns `None`
(`take_binary` is left out of the pattern: it can still hand out the blob) -/
theorem C19_into_fused (it : IntoIter) (s : IStep) (pat : List IStep)
    (h : (stepInto it s).1 = .kv none) (hp : ∀ s ∈ pat, s ≠ .takeBinary) :
    driveInto pat (stepInto it s).2 = pat.map (fun _ => .kv none) := by
  have hr := stepInto_refines it s
  rw [driveInto_refines, hr.2, AInto_step_none (hr.1 ▸ h)]
  exact AInto_drive_nil pat hp _

/-- MAIN REFINEMENT THEOREM. For every frame (holes anywhere) and every sequence of operations
(`Op`: `find`, `get`, `take_binary`, the length / emptiness / binary queries, `fields()` forward,
reversed and pattern-driven, pattern-driven `into_iter()`) the real representation returns exactly
what the ordered multimap returns. -/
theorem C19_refines (f : Frame) (ops : List Op) : run f ops = runAbs (abs f) ops := by
  induction ops generalizing f with
  | nil => rfl
  | cons op ops ih =>
    cases op with
    | find k => simp only [run, runAbs, C19_find_refines, ih]
    | get k =>
      have := C19_get_refines f k
      simp only [run, runAbs, ih, this.1, this.2]
    | takeBinary =>
      have := C19_takeBinary_refines f
      simp only [run, runAbs, ih, this.1, this.2]
    | len => simp only [run, runAbs, C19_fieldsLen_refines, ih]
    | isEmpty => simp only [run, runAbs, C19_isEmpty_refines, ih]
    | hasBinary => simp only [run, runAbs, C19_hasBinary_refines, ih]
    | binary => simp only [run, runAbs, C19_binary_refines, ih]
    | iterAll => simp only [run, runAbs, C19_fields_forward, ih]
    | iterBackAll => simp only [run, runAbs, C19_fields_backward, ih]
    | iterMixed pat => simp only [run, runAbs, C19_fields_seq_refines, ih]
    | into pat => simp only [run, runAbs, C19_into_seq_refines]

theorem C19_abs_ofFields (fields : List (Bytes × Bytes)) (binary : Option Bytes) :
    abs (Frame.ofFields fields binary) = { fields := fields, binary := binary } := by
  simp [Frame.abs, Frame.ofFields, List.filterMap_map]

/-- what the correspondence run checks: on a frame fresh from the parser the model's outputs are the
multimap's on the field list of the wire -/
theorem C19_refines_wire (fields : List (Bytes × Bytes)) (binary : Option Bytes) (ops : List Op) :
    run (Frame.ofFields fields binary) ops = runAbs { fields := fields, binary := binary } ops := by
  rw [C19_refines, C19_abs_ofFields]

/-- lookup: exactly the first pair whose key is *byte-equal* to `k` (no case folding, no trimming) -/
theorem C19_find_first_match (f : Frame) (k v : Bytes) :
    f.find k = some v ↔
      ∃ pre post, (abs f).fields = pre ++ (k, v) :: post ∧ ∀ p ∈ pre, p.1 ≠ k := by
  rw [C19_find_refines]; exact find_eq_some_iff _ k v

theorem C19_find_none (f : Frame) (k : Bytes) :
    f.find k = none ↔ ∀ p ∈ (abs f).fields, p.1 ≠ k := by
  rw [C19_find_refines]; exact find_eq_none_iff _ k

theorem get_eq (f : Frame) (k : Bytes) :
    (f.get k).1 = f.find k ∧ abs (f.get k).2 = { abs f with fields := AFrame.eraseFirst k (abs f).fields } := by
  have h := C19_get_refines f k
  rw [AFrame_get_eq, ← C19_find_refines] at h
  exact h

/-- taking: returns the first match and removes exactly that pair, everything else stays in order -/
theorem C19_get_removes_first (f : Frame) (k v : Bytes) (pre post : List (Bytes × Bytes))
    (hl : (abs f).fields = pre ++ (k, v) :: post) (hpre : ∀ p ∈ pre, p.1 ≠ k) :
    (f.get k).1 = some v ∧ (abs (f.get k).2).fields = pre ++ post ∧ (abs (f.get k).2).binary = (abs f).binary := by
  rw [(get_eq f k).1, (get_eq f k).2]
  refine ⟨(C19_find_first_match f k v).mpr ⟨pre, post, hl, hpre⟩, ?_, rfl⟩
  show AFrame.eraseFirst k (abs f).fields = pre ++ post
  rw [hl, eraseFirst_first k v pre post hpre]

theorem C19_get_none (f : Frame) (k : Bytes) (h : ∀ p ∈ (abs f).fields, p.1 ≠ k) :
    (f.get k).1 = none ∧ abs (f.get k).2 = abs f := by
  rw [(get_eq f k).1, (get_eq f k).2, eraseFirst_of_not_mem k _ h]
  exact ⟨(C19_find_none f k).mpr h, rfl⟩

/-- `get k` after `get k` returns the second original match -/
theorem C19_get_twice (f : Frame) (k v₁ v₂ : Bytes) (pre mid post : List (Bytes × Bytes))
    (hl : (abs f).fields = pre ++ (k, v₁) :: mid ++ (k, v₂) :: post)
    (hpre : ∀ p ∈ pre, p.1 ≠ k) (hmid : ∀ p ∈ mid, p.1 ≠ k) :
    (f.get k).1 = some v₁ ∧ ((f.get k).2.get k).1 = some v₂ ∧
      (abs ((f.get k).2.get k).2).fields = pre ++ mid ++ post := by
  have h1 := C19_get_removes_first f k v₁ pre (mid ++ (k, v₂) :: post) (by simpa using hl) hpre
  have hpm : ∀ p ∈ pre ++ mid, p.1 ≠ k := fun p hp => (List.mem_append.mp hp).elim (hpre p) (hmid p)
  have h2 := C19_get_removes_first (f.get k).2 k v₂ (pre ++ mid) post (by simpa using h1.2.1) hpm
  exact ⟨h1.1, h2.1, h2.2.1⟩

/-- Keys are compared bytewise (`C19_find_first_match`): a `k` that differs from every remaining key
only in letter case finds nothing. -/
theorem C19_find_case_sensitive (f : Frame) (k : Bytes) (h : ∀ p ∈ (abs f).fields, p.1 ≠ k) :
    f.find k = none ∧ (f.get k).1 = none :=
  ⟨(C19_find_none f k).mpr h, (C19_get_none f k h).1⟩

/-- abstraction of a frames-iterator state: the items not yet yielded -/
def absFrames (it : FramesIter) : List (Except Err Frame) := respItems it.frames it.error

theorem absFrames_iter (r : Response) : absFrames r.iter = respItems r.frames r.error := rfl

theorem respItems_length {φ ε : Type} (frames : List φ) (error : Option ε) :
    (respItems frames error).length = frames.length + error.toList.length := by
  simp [respItems]

theorem C19_frames_next_refines (it : FramesIter) :
    it.next.1 = (DQ.next (absFrames it)).1 ∧ absFrames it.next.2 = (DQ.next (absFrames it)).2 := by
  obtain ⟨frames, error⟩ := it
  cases frames with
  | cons f rest => simp [FramesIter.next, absFrames, respItems]
  | nil =>
    cases error <;> simp [FramesIter.next, absFrames, respItems]

theorem C19_frames_nextBack_refines (it : FramesIter) :
    it.nextBack.1 = (DQ.nextBack (absFrames it)).1 ∧ absFrames it.nextBack.2 = (DQ.nextBack (absFrames it)).2 := by
  obtain ⟨frames, error⟩ := it
  cases error with
  | some e =>
    simp [FramesIter.nextBack, absFrames, respItems]
  | none =>
    rcases eq_nil_or_snoc frames with rfl | ⟨t, a, rfl⟩ <;>
      simp [FramesIter.nextBack, absFrames, respItems]

/-- `size_hint()` is exact in every state -/
theorem C19_frames_sizeHint_state (it : FramesIter) :
    it.sizeHint = ((absFrames it).length, some (absFrames it).length) := by
  obtain ⟨frames, error⟩ := it
  cases error <;> simp [FramesIter.sizeHint, absFrames, respItems]

theorem frames_step_refines (b : Bool) (it : FramesIter) :
    (if b then it.nextBack else it.next).1 = (if b then DQ.nextBack (absFrames it) else DQ.next (absFrames it)).1 ∧
    absFrames (if b then it.nextBack else it.next).2 =
      (if b then DQ.nextBack (absFrames it) else DQ.next (absFrames it)).2 := by
  cases b
  · exact C19_frames_next_refines it
  · exact C19_frames_nextBack_refines it

/-- EVERY sequence of `next` / `next_back` on `response.frames()` / `response.into_iter()`: the
items are `frames.map Ok ++ error.map Err` consumed from either end, the `size_hint()` after every
call the number of items not yet yielded -/
theorem C19_frames_seq_refines_state (it : FramesIter) (pat : List Bool) :
    driveFrames pat it = DQ.driveSized pat (absFrames it) := by
  induction pat generalizing it with
  | nil => rfl
  | cons b pat ih =>
    have := frames_step_refines b it
    simp only [driveFrames, DQ.driveSized]
    rw [ih, this.1, C19_frames_sizeHint_state, this.2]

theorem C19_frames_seq_refines (r : Response) (pat : List Bool) :
    driveFrames pat r.iter = DQ.driveSized pat (respItems r.frames r.error) :=
  C19_frames_seq_refines_state r.iter pat

theorem C19_frames_sizeHint_initial (r : Response) :
    r.iter.sizeHint = (r.successfulFrames + (if r.isError then 1 else 0),
                       some (r.successfulFrames + (if r.isError then 1 else 0))) := rfl

theorem C19_frames_items (r : Response) (pat : List Bool) :
    (driveFrames pat r.iter).map (·.1) = DQ.drive pat (respItems r.frames r.error) := by
  rw [C19_frames_seq_refines, DQ_driveSized_fst]

/-- number of `Some` among the first outputs -/
def yielded {α : Type} (outs : List (Option α)) : Nat := (outs.filter Option.isSome).length

/-- The walk of `C19_deque_partition`, counting (`yielded (some a :: os)` is `yielded os + 1` by
computation). -/
theorem DQ_remaining_length {α : Type} (pat : List Bool) (l : List α) :
    (DQ.remaining pat l).length + yielded (DQ.drive pat l) = l.length := by
  induction pat generalizing l with
  | nil => rfl
  | cons b p ih =>
    cases b with
    | false =>
      cases l with
      | nil => exact ih []
      | cons a t => exact congrArg (· + 1) (ih t)
    | true =>
      rcases eq_nil_or_snoc l with rfl | ⟨t, a, rfl⟩
      · exact ih []
      · simp only [DQ.remaining, DQ.drive, DQ_nextBack_snoc, if_true, List.length_append]
        exact congrArg (· + 1) (ih t)

def framesAfter : List Bool → FramesIter → FramesIter
  | [], it => it
  | b :: pat, it => framesAfter pat (if b then it.nextBack else it.next).2

theorem absFrames_after (pat : List Bool) (it : FramesIter) :
    absFrames (framesAfter pat it) = DQ.remaining pat (absFrames it) := by
  induction pat generalizing it with
  | nil => rfl
  | cons b pat ih =>
    simp only [framesAfter, DQ.remaining]
    rw [ih, (frames_step_refines b it).2]

/-- exact size hints, counted, after ANY call sequence -/
theorem C19_frames_sizeHint_exact (r : Response) (pat : List Bool) :
    ∃ n, (framesAfter pat r.iter).sizeHint = (n, some n) ∧
      n + yielded ((driveFrames pat r.iter).map (·.1)) = r.frames.length + (if r.error.isSome then 1 else 0) := by
  refine ⟨(absFrames (framesAfter pat r.iter)).length, C19_frames_sizeHint_state _, ?_⟩
  rw [absFrames_after, C19_frames_items, absFrames_iter, DQ_remaining_length, respItems_length]
  cases r.error <;> rfl

theorem C19_frames_fused (it : FramesIter) (b : Bool) (pat : List Bool)
    (h : (if b then it.nextBack else it.next).1 = none) :
    (driveFrames pat (if b then it.nextBack else it.next).2).map (·.1) = pat.map (fun _ => none) := by
  have hr := frames_step_refines b it
  rw [C19_frames_seq_refines_state, DQ_driveSized_fst, hr.2]
  exact DQ_fused b pat _ (hr.1 ▸ h)

/-- forward: successful frames in order, then the error -/
theorem C19_frames_forward (r : Response) :
    (driveFrames (List.replicate (r.frames.length + r.error.toList.length) false) r.iter).map (·.1) =
      (r.frames.map Except.ok ++ r.error.toList.map Except.error).map some := by
  rw [C19_frames_items, ← respItems_length, DQ_drive_all_front]
  rfl

/-- backward: the error first, then the frames last to first -/
theorem C19_frames_backward (r : Response) :
    (driveFrames (List.replicate (r.frames.length + r.error.toList.length) true) r.iter).map (·.1) =
      (r.error.toList.map Except.error ++ r.frames.reverse.map Except.ok).map some := by
  rw [C19_frames_items, ← respItems_length, DQ_drive_all_back]
  cases r.error <;> simp [respItems]

theorem C19_successfulFrames (r : Response) : r.successfulFrames = r.frames.length := rfl
theorem C19_isError (r : Response) : r.isError = r.error.isSome := rfl

/-- responses the builder can produce: at least one frame, or an error -/
def Response.WellFormed (r : Response) : Prop := r.frames ≠ [] ∨ r.error.isSome = true

instance (r : Response) : Decidable (Response.WellFormed r) := by unfold Response.WellFormed; exact inferInstance

/-- exact characterisation: the `unwrap` panics iff there is neither a frame nor an error -/
theorem C19_intoSingleFrame_panic_iff (r : Response) :
    r.intoSingleFrame = .panic ↔ ¬ Response.WellFormed r := by
  obtain ⟨frames, error⟩ := r
  cases frames <;> cases error <;>
    simp [Response.intoSingleFrame, Response.iter, FramesIter.next, SlotIter.popFront, Response.WellFormed]

/-- never panics on a well-formed response; the result is the first frame, else the error -/
theorem C19_intoSingleFrame (r : Response) (h : Response.WellFormed r) :
    r.intoSingleFrame = .val (match r.frames with | f :: _ => .ok f | [] => .error (r.error.getD {})) ∧
    r.intoSingleFrame ≠ .panic := by
  obtain ⟨frames, error⟩ := r
  cases frames <;> cases error <;>
    simp_all [Response.intoSingleFrame, Response.iter, FramesIter.next, SlotIter.popFront, Response.WellFormed]

/-- invariant of the builder state that makes the comment "There is always at least one frame" true -/
def stateOk : Assemble.State → Prop
  | .listInProgress _ done => done ≠ []
  | _ => True

theorem step_ok (s : Assemble.State) (c : Assemble.Comp) (hs : stateOk s) :
    stateOk (Assemble.step s c).1 ∧ ∀ r, (Assemble.step s c).2 = some r → Response.WellFormed r := by
  -- only `OK` and `ACK` emit a response: `ACK` one with an error, `OK` the completed frames, of
  -- which there is at least one (in a command list by the invariant, which every `list_OK` restores)
  cases c with
  | field k v => cases s <;> exact ⟨hs, fun _ h => by cases h⟩
  | binary b => cases s <;> exact ⟨hs, fun _ h => by cases h⟩
  | endOfFrame =>
    cases s with
    | initial => exact ⟨List.cons_ne_nil _ _, fun _ h => by cases h⟩
    | inProgress cur => exact ⟨List.cons_ne_nil _ _, fun _ h => by cases h⟩
    | listInProgress cur done =>
      exact ⟨List.append_ne_nil_of_right_ne_nil _ (List.cons_ne_nil _ _), fun _ h => by cases h⟩
  | endOfResponse =>
    cases s with
    | initial => exact ⟨trivial, fun _ h => by cases h; exact Or.inl (List.cons_ne_nil _ _)⟩
    | inProgress cur => exact ⟨trivial, fun _ h => by cases h; exact Or.inl (List.cons_ne_nil _ _)⟩
    | listInProgress cur done => exact ⟨trivial, fun _ h => by cases h; exact Or.inl hs⟩
  | error e => cases s <;> exact ⟨trivial, fun _ h => by cases h; exact Or.inr rfl⟩

/-- every response `ResponseBuilder` can emit — from any component stream, starting in any state
reachable from `Initial` — has a frame or an error, hence `into_single_frame` never panics on it -/
theorem C19_builder_wellformed (s : Assemble.State) (hs : stateOk s) (cs : List Assemble.Comp) :
    ∀ r ∈ (Assemble.run s cs).1, Response.WellFormed r ∧ r.intoSingleFrame ≠ .panic := by
  fun_induction Assemble.run s cs with
  | case1 s => nofun
  | case2 s c cs s' r0 hc rest ih =>
    have hstep := hc ▸ step_ok s c hs
    have hr0 := hstep.2 r0 rfl
    exact List.forall_mem_cons.mpr ⟨⟨hr0, (C19_intoSingleFrame r0 hr0).2⟩, ih hstep.1⟩
  | case3 s c cs s' hc ih => exact ih (hc ▸ step_ok s c hs).1

theorem C19_builder_wellformed_initial (cs : List Assemble.Comp) :
    ∀ r ∈ (Assemble.run .initial cs).1, r.intoSingleFrame ≠ .panic :=
  fun r hr => (C19_builder_wellformed .initial trivial cs r hr).2

/-- wire: `a: 1`, (taken), `A: 2`, `a: 3`, (taken), `file: x`, binary `01 02` -/
def exF : Frame :=
  { slots := [some (str "a", str "1"), none, some (str "A", str "2"), some (str "a", str "3"), none,
              some (str "file", str "x")],
    binary := some [1, 2] }

def exFields : List (Bytes × Bytes) :=
  [(str "a", str "1"), (str "A", str "2"), (str "a", str "3"), (str "file", str "x")]

example : (abs exF).fields = exFields := by decide +kernel

-- the concrete functions run over the holes
example : Fields.next exF.slots = (some (str "a", str "1"), exF.slots.tail) := by decide +kernel
example : Fields.next exF.slots.tail = (some (str "A", str "2"), exF.slots.drop 3) := by decide +kernel
example : Fields.nextBack (exF.get (str "file")).2.slots =
    (some (str "a", str "3"), [some (str "a", str "1"), none, some (str "A", str "2")]) := by decide +kernel
example : exF.fieldsLen = 4 ∧ exF.isEmpty = false ∧ exF.find (str "a") = some (str "1") ∧
    exF.find (str "FILE") = none ∧ exF.find (str "File") = none := by decide +kernel
example : (exF.get (str "a")).2.slots =
    [none, none, some (str "A", str "2"), some (str "a", str "3"), none, some (str "file", str "x")] := by
  decide +kernel
example : Fields.collect exF.slots = exFields ∧ Fields.collectBack exF.slots = exFields.reverse := by
  decide +kernel
example : driveFields [false, true, true, false, false, true, false] exF.slots =
    [some (str "a", str "1"), some (str "file", str "x"), some (str "a", str "3"), some (str "A", str "2"),
     none, none, none] := by decide +kernel

-- a call sequence through the refinement theorem: first / second / no third match of `a`, `A` untouched
example : run exF [.find (str "a"), .get (str "a"), .get (str "a"), .get (str "a"), .find (str "A"), .len,
                   .takeBinary, .takeBinary, .isEmpty, .iterBackAll, .into [.nextBack, .takeBinary, .next, .next]] =
    [.val (some (str "1")), .val (some (str "1")), .val (some (str "3")), .val none, .val (some (str "2")),
     .nat 2, .val (some [1, 2]), .val none, .bool false,
     .items [(str "file", str "x"), (str "A", str "2")],
     .steps [.kv (some (str "file", str "x")), .bin none, .kv (some (str "A", str "2")), .kv none]] := by
  rw [C19_refines]; decide +kernel

-- hypotheses of `C19_get_removes_first` / `C19_get_twice` / `C19_find_case_sensitive` are satisfiable
example : (exF.get (str "a")).1 = some (str "1") ∧
    (abs (exF.get (str "a")).2).fields = [(str "A", str "2"), (str "a", str "3"), (str "file", str "x")] := by
  have := C19_get_removes_first exF (str "a") (str "1") [] [(str "A", str "2"), (str "a", str "3"), (str "file", str "x")]
    (by decide +kernel) (by simp)
  exact ⟨this.1, this.2.1⟩

example : ((exF.get (str "a")).2.get (str "a")).1 = some (str "3") :=
  (C19_get_twice exF (str "a") (str "1") (str "3") [] [(str "A", str "2")] [(str "file", str "x")]
    (by decide +kernel) (by simp) (by decide +kernel)).2.1

example : exF.find (str "FILE") = none ∧ (exF.get (str "FILE")).1 = none :=
  C19_find_case_sensitive exF (str "FILE") (by decide +kernel)

-- hypothesis of the fused theorems: an iterator over holes only returns `None` at once
example : (if true then Fields.nextBack [none, none] else Fields.next [none, none]).1 = none := by
  decide +kernel
example : driveFields [false, true, false] (Fields.nextBack [none, none]).2 = [none, none, none] :=
  C19_fields_fused [none, none] true [false, true, false] (by decide +kernel)
example : (stepInto { iter := [none], binary := some [7] } .next).1 = .kv none := by decide +kernel

/-- a command-list response with two frames and an error -/
def exR : Response :=
  { frames := [Frame.ofFields [(str "i", str "0")] none, Frame.ofFields [(str "i", str "1")] (some [9])],
    error := some { code := 5, commandIndex := 2, message := str "boom" } }

example : (driveFrames [true, false, true, false, true] exR.iter).map (fun x => (x.1.map (·.isOk), x.2)) =
    [(some false, (2, some 2)), (some true, (1, some 1)), (some true, (0, some 0)),
     (none, (0, some 0)), (none, (0, some 0))] := by decide +kernel
example : exR.iter.sizeHint = (3, some 3) := by decide +kernel
example : Response.WellFormed exR := by decide +kernel
example : exR.intoSingleFrame = .val (.ok (Frame.ofFields [(str "i", str "0")] none)) := by decide +kernel
example : ({ frames := [], error := exR.error } : Response).intoSingleFrame = .val (.error (exR.error.getD {})) := by
  decide +kernel
/-- the `unwrap` is a real branch of the model: a hand-made response with nothing in it panics -/
example : ({ frames := [], error := none } : Response).intoSingleFrame = .panic := by decide +kernel
-- the builder invariant holds in a non-initial state, and the builder emits non-trivial responses
example : stateOk (.listInProgress {} [{}]) := by simp [stateOk]
example : (Assemble.run .initial [.field (str "i") (str "0"), .endOfFrame, .endOfFrame,
            .error { code := 5, commandIndex := 2 }, .endOfResponse, .error {}]).1 =
    [{ frames := [Frame.ofFields [(str "i", str "0")] none, {}], error := some { code := 5, commandIndex := 2 } },
     Response.empty, { frames := [], error := some {} }] := by decide +kernel

end Mpd.C19
