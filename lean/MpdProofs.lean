import MpdProofs.Lemmas.Bytes
import MpdProofs.Lemmas.List
import MpdProofs.C20
import MpdProofs.Lemmas.AFrame
import MpdProofs.Lemmas.Frame
import MpdProofs.C19
import MpdProofs.Lemmas.Parser
import MpdProofs.Lemmas.Builder
import MpdProofs.Lemmas.Conn
import MpdProofs.C02
import MpdProofs.Lemmas.Tok
import MpdProofs.Lemmas.Line
import MpdProofs.C06
import MpdProofs.C07
import MpdProofs.C13
import MpdProofs.Lemmas.ParserInv
import MpdProofs.Lemmas.Wire
import MpdProofs.Lemmas.Encode
import MpdProofs.C03
import MpdProofs.C09
import MpdProofs.C10
import MpdProofs.C18
import MpdProofs.Lemmas.Song
import MpdProofs.C14
import MpdProofs.C12Song
import MpdProofs.Lemmas.Filter
import MpdProofs.C11
import MpdProofs.Lemmas.Outcome
import MpdProofs.Lemmas.Prog
import MpdProofs.Lemmas.Records
import MpdProofs.Lemmas.Decimal
import MpdProofs.Lemmas.F64
import MpdProofs.Lemmas.Duration
import MpdProofs.Lemmas.Lookup
import MpdProofs.Lemmas.Seq
import MpdProofs.C16
import MpdProofs.C12Typed
import MpdProofs.Lemmas.Loop
import MpdProofs.Lemmas.LoopStep
import MpdProofs.Lemmas.LoopInv
import MpdProofs.Lemmas.Skeleton
import MpdProofs.Lemmas.CancelSafe
import MpdProofs.Lemmas.ObsMono
import MpdProofs.Lemmas.NoidleOnly
import MpdProofs.Lemmas.StreamRun
import MpdProofs.Lemmas.Progress
import MpdProofs.Lemmas.EndToEnd
import MpdProofs.Lemmas.Sticky
import MpdProofs.Lemmas.Resume
import MpdProofs.Lemmas.Flaky
import MpdProofs.Lemmas.FlakyS
import MpdProofs.Lemmas.Utf8
import MpdProofs.Lemmas.InvalidFinal
import MpdProofs.Lemmas.CmdList
import MpdProofs.C13Pair
import MpdProofs.C01
import MpdProofs.C04
import MpdProofs.C05
import MpdProofs.C08
import MpdProofs.C17
import MpdProofs.C18Password
import MpdProofs.Lemmas.F64Round
import MpdProofs.Lemmas.Commands
import MpdProofs.Lemmas.Requests
import MpdProofs.C15
